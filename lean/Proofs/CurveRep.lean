import Proofs.CurveGroup
import Proofs.CurveGroup2

/-! Canonical representatives: the inverse of `toPoint` on the valid points of the model. With it the bridge theorems
of `Proofs/CurveGroup.lean` and `Proofs/CurveGroup2.lean` read as equations between values of the model
(`mul C k P = ofPoint (k • toPoint P)`, …), so that an identity between results of the model's curve arithmetic is an
identity in the group of the curve under `ofPoint`; on torsion points only the scalar modulo the order matters
(`nsmul_congr_mod`). -/

theorem nsmul_congr_mod {G : Type*} [AddMonoid G] {P : G} {n : ℕ} (h0 : n • P = 0) {a b : ℕ} (h : a % n = b % n) :
    a • P = b • P := by
  rw [nsmul_eq_mod_nsmul a h0, nsmul_eq_mod_nsmul b h0, h]

namespace Proofs.BlsConcrete
open Model Model.Curve WeierstrassCurve.Affine

section generic
open Proofs.CurveGroup
variable (p : ℕ) [Fact p.Prime] (a b : ℕ)

def ofPoint : (W p a b).Point → Aff ℕ
  | .zero => none
  | .some x y _ => some (x.val, y.val)

end generic

section generic2
open Proofs.CurveGroup2
variable (p : ℕ) [hp : Fact p.Prime] [h34 : Fact (∀ r : ZMod p, r ^ 2 ≠ (-1 : ZMod p) + 0 * r)] (a b : ℕ × ℕ)

def ofK (x : K p) : ℕ × ℕ := (x.re.val, x.im.val)

def ofPoint2 : (W p a b).Point → Aff (ℕ × ℕ)
  | .zero => none
  | .some x y _ => some (ofK p x, ofK p y)

end generic2

end Proofs.BlsConcrete

namespace Proofs.CurveGroup
open Model Model.Curve WeierstrassCurve.Affine Proofs.BlsConcrete

variable (p : ℕ) [Fact p.Prime] (a b : ℕ)

theorem toPoint_ofPoint (P : (W p a b).Point) : toPoint p a b (ofPoint p a b P) = P := by
  cases P with
  | zero => rfl
  | some x y h =>
    show toPoint p a b (some (x.val, y.val)) = _
    have h' : (W p a b).Nonsingular ((x.val : ℕ) : ZMod p) ((y.val : ℕ) : ZMod p) := by
      rw [ZMod.natCast_zmod_val, ZMod.natCast_zmod_val]; exact h
    rw [toPoint_some p a b h']
    exact some_congr p a b h' (ZMod.natCast_zmod_val x) (ZMod.natCast_zmod_val y) h

theorem valid_ofPoint (P : (W p a b).Point) : Valid p a b (ofPoint p a b P) := by
  cases P with
  | zero => exact True.intro
  | some x y h =>
    refine ⟨ZMod.val_lt x, ZMod.val_lt y, ?_⟩
    rw [onCurve_iff p a b (ZMod.val_lt x) (ZMod.val_lt y), ZMod.natCast_zmod_val, ZMod.natCast_zmod_val]
    exact h.1

theorem ofPoint_eq_none (P : (W p a b).Point) : ofPoint p a b P = none ↔ P = 0 := by
  cases P with
  | zero => exact ⟨fun _ => rfl, fun _ => rfl⟩
  | some x y h => exact ⟨fun h' => (nomatch h'), fun h' => (nomatch h')⟩

variable (hΔ : (W p a b).Δ ≠ 0)
include hΔ

theorem ofPoint_toPoint (Q : Aff ℕ) (hQ : Valid p a b Q) : ofPoint p a b (toPoint p a b Q) = Q :=
  toPoint_inj p a b hΔ _ _ (valid_ofPoint p a b _) hQ (toPoint_ofPoint p a b _)

variable (h2 : 2 < p) (hb : p < 2 ^ 800)
include h2 hb

theorem mul_ofPoint (k : ℕ) (hk : k < 2 ^ 800) (P : Aff ℕ) (hP : Valid p a b P) :
    mul (C p a b) k P = ofPoint p a b (k • toPoint p a b P) := by
  have m := mul_eq p a b hΔ h2 hb k hk P hP
  rw [← m.2, ofPoint_toPoint p a b hΔ _ m.1]

theorem mul_eq_none_iff (k : ℕ) (hk : k < 2 ^ 800) (P : Aff ℕ) (hP : Valid p a b P) :
    mul (C p a b) k P = none ↔ k • toPoint p a b P = 0 := by
  rw [mul_ofPoint p a b hΔ h2 hb k hk P hP, ofPoint_eq_none]

theorem addAff_ofPoint (P Q : Aff ℕ) (hP : Valid p a b P) (hQ : Valid p a b Q) :
    addAff (C p a b) P Q = ofPoint p a b (toPoint p a b P + toPoint p a b Q) := by
  have m := addAff_eq p a b hΔ h2 hb P Q hP hQ
  rw [← m.2, ofPoint_toPoint p a b hΔ _ m.1]

theorem sum_ofPoint (ps : List (Aff ℕ)) (hps : ∀ P ∈ ps, Valid p a b P) :
    sum (C p a b) ps = ofPoint p a b (ps.map (toPoint p a b)).sum := by
  have m := sum_eq p a b hΔ h2 hb ps hps
  rw [← m.2, ofPoint_toPoint p a b hΔ _ m.1]

end Proofs.CurveGroup

namespace Proofs.CurveGroup2
open Model Model.Curve WeierstrassCurve.Affine Proofs.BlsConcrete

variable (p : ℕ) [hp : Fact p.Prime]

theorem cast_ofK (x : K p) : ((ofK p x : ℕ × ℕ) : K p) = x := by
  show φ p _ = x
  unfold φ ofK
  ext
  · simp
  · simp

theorem canon_ofK (x : K p) : canon p (ofK p x) := ⟨ZMod.val_lt _, ZMod.val_lt _⟩

theorem ofPoint_eq_none (a b : ℕ × ℕ) (P : (W p a b).Point) : ofPoint2 p a b P = none ↔ P = 0 := by
  cases P with
  | zero => exact ⟨fun _ => rfl, fun _ => rfl⟩
  | some x y h => exact ⟨fun h' => (nomatch h'), fun h' => (nomatch h')⟩

variable [h34 : Fact (∀ r : ZMod p, r ^ 2 ≠ (-1 : ZMod p) + 0 * r)] (a b : ℕ × ℕ)

theorem toPoint_ofPoint (P : (W p a b).Point) : toPoint p a b (ofPoint2 p a b P) = P := by
  cases P with
  | zero => rfl
  | some x y h =>
    show toPoint p a b (some (ofK p x, ofK p y)) = _
    have h' : (W p a b).Nonsingular ((ofK p x : ℕ × ℕ) : K p) ((ofK p y : ℕ × ℕ) : K p) := by
      rw [cast_ofK, cast_ofK]; exact h
    rw [toPoint_some p a b h']
    exact some_congr p a b h' (cast_ofK p x) (cast_ofK p y) h

theorem valid_ofPoint (P : (W p a b).Point) : Valid p a b (ofPoint2 p a b P) := by
  cases P with
  | zero => exact True.intro
  | some x y h =>
    refine ⟨canon_ofK p x, canon_ofK p y, ?_⟩
    rw [onCurve_iff p a b (canon_ofK p x) (canon_ofK p y), cast_ofK, cast_ofK]
    exact h.1

variable (hΔ : (W p a b).Δ ≠ 0)
include hΔ

theorem ofPoint_toPoint (Q : Aff (ℕ × ℕ)) (hQ : Valid p a b Q) : ofPoint2 p a b (toPoint p a b Q) = Q :=
  toPoint_inj p a b hΔ _ _ (valid_ofPoint p a b _) hQ (toPoint_ofPoint p a b _)

variable (h2 : 2 < p) (hb : p < 2 ^ 800)
include h2 hb

theorem mul_ofPoint (k : ℕ) (hk : k < 2 ^ 800) (P : Aff (ℕ × ℕ)) (hP : Valid p a b P) :
    mul (C p a b) k P = ofPoint2 p a b (k • toPoint p a b P) := by
  have m := mul_eq p a b hΔ h2 hb k hk P hP
  rw [← m.2, ofPoint_toPoint p a b hΔ _ m.1]

theorem addAff_ofPoint (P Q : Aff (ℕ × ℕ)) (hP : Valid p a b P) (hQ : Valid p a b Q) :
    addAff (C p a b) P Q = ofPoint2 p a b (toPoint p a b P + toPoint p a b Q) := by
  have m := addAff_eq p a b hΔ h2 hb P Q hP hQ
  rw [← m.2, ofPoint_toPoint p a b hΔ _ m.1]

theorem sum_ofPoint (ps : List (Aff (ℕ × ℕ))) (hps : ∀ P ∈ ps, Valid p a b P) :
    sum (C p a b) ps = ofPoint2 p a b (ps.map (toPoint p a b)).sum := by
  have m := sum_eq p a b hΔ h2 hb ps hps
  rw [← m.2, ofPoint_toPoint p a b hΔ _ m.1]

end Proofs.CurveGroup2
