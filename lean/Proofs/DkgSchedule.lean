import Proofs.DkgCommute

/-! Every delivery at an honest non-dealer participant of Feldman-VSS-Qual is a no-op, a single-entry update of
the complaint table, the dealer's vector, the dealer's share or a disqualification (`Kind`); any two deliveries the network may reorder
commute (up to `RelP`): `step_pair`. The invariant `Inv` under which they do is defined here. -/

namespace Proofs.DkgCommute
open Model Model.Dkg
variable {O : Ops}

/-- one delivery: a broadcast or a private message from `o` -/
inductive Dl
  | bcast (o : Nat) (m : Bytes)
  | priv (o : Nat) (m : Bytes)

def step (s : St O) : Dl → St O
  | .bcast o m => (FvssQ.bcastBody s o m).1
  | .priv o m => (FvssQ.privBody s o m).1

def Dl.sender : Dl → Nat
  | .bcast o _ => o
  | .priv o _ => o

def Dl.isPriv : Dl → Bool
  | .bcast _ _ => false
  | .priv _ _ => true

/-- the network may deliver `a` and `b` in either order: different senders, or the two channels of one sender -/
def reorderable (a b : Dl) : Prop := a.sender ≠ b.sender ∨ a.isPriv ≠ b.isPriv

/-- kinds of deliveries at a participant that is not the dealer -/
inductive Kind
  | noop                                   -- ignored (at most a `FlagMisbehavior` callback)
  | disq                                   -- a malformed broadcast of the dealer: disqualifies
  | cmpl (k : Nat)                         -- a well-formed complaint of `k` against the dealer
  | ans (j : Nat) (sc : Option Nat)        -- the dealer's answer for complainer `j`
  | vec (data : Bytes)                     -- the dealer's verification vector
  | share (data : Bytes)                   -- the dealer's private share message

/-- classification of a broadcast from `o`; of the state it reads `me`, `dealer`, `size` and `complaintsTimeout`
    only, which no delivery changes -/
def classifyB (s : St O) (o : Nat) (m : Bytes) : Kind :=
  if s.me = o then .noop
  else if m.length = 0 then (if o = s.dealer then .disq else .noop)
  else if m.headD 0 = tagVerifVec then (if o = s.dealer then .vec (m.drop 1) else .noop)
  else if m.headD 0 = tagComplaint then
    (if s.complaintsTimeout then .noop
     else match parseC s (m.drop 1) with
       | none => if o = s.dealer then .disq else .noop
       | some ce => if o = s.dealer then .noop else if ce ≠ s.dealer then .noop else .cmpl o)
  else if m.headD 0 = tagAnswer then
    (if o = s.dealer then (match parseA s (m.drop 1) with | none => .disq | some (j, sc) => .ans j sc) else .noop)
  else (if o = s.dealer then .disq else .noop)

def classify (s : St O) : Dl → Kind
  | .bcast o m => classifyB s o m
  | .priv o m => if s.me = o then .noop else if o = s.dealer then .share m else .noop

/-- effect of a delivery of each kind on a state that is not disqualified -/
def interp (s : St O) : Kind → St O
  | .noop => s
  | .disq => setDisq s true
  | .cmpl k => rcOk s k
  | .ans j sc => raOk s j sc
  | .vec d => (FvssQ.receiveVerifVector s s.dealer d).1
  | .share d => (FvssQ.receiveShare s s.dealer d).1

theorem step_disq (s : St O) (e : Dl) (h : s.disqualified = true) : step s e = s := by
  cases e with
  | bcast o m =>
    show (FvssQ.bcastBody s o m).1 = s
    unfold FvssQ.bcastBody
    by_cases ho : s.me = o
    · rw [if_pos ho]
    · rw [if_neg ho, if_pos h]
  | priv o m =>
    show (FvssQ.privBody s o m).1 = s
    unfold FvssQ.privBody
    by_cases ho : s.me = o
    · rw [if_pos ho]
    · rw [if_neg ho, if_pos h]

theorem dealer_only (s : St O) (o : Nat) (X : St O) (K : Kind) (hd : o = s.dealer → X = interp s K)
    (hn : o ≠ s.dealer → X = s) : X = interp s (if o = s.dealer then K else .noop) := by
  by_cases h : o = s.dealer
  · rw [if_pos h]; exact hd h
  · rw [if_neg h]; exact hn h

theorem step_classify (s : St O) (e : Dl) (hme : s.me ≠ s.dealer) (hdq : s.disqualified = false) :
    step s e = interp s (classify s e) := by
  have hq : ¬ s.disqualified = true := by rw [hdq]; exact Bool.false_ne_true
  cases e with
  | priv o m =>
    show (FvssQ.privBody s o m).1 = interp s (if s.me = o then .noop else if o = s.dealer then .share m else .noop)
    unfold FvssQ.privBody
    by_cases ho : s.me = o
    · rw [if_pos ho, if_pos ho]; rfl
    rw [if_neg ho, if_neg ho, if_neg hq]
    exact dealer_only s o _ _ (fun h => by subst h; rfl) (fun h => rs_other s o h m)
  | bcast o m =>
    show (FvssQ.bcastBody s o m).1 = interp s (classifyB s o m)
    -- a malformed broadcast disqualifies its sender if that is the dealer
    have bad : (if o = s.dealer then ({ s with disqualified := true } : St O) else s) =
        interp s (if o = s.dealer then .disq else .noop) := by rw [apply_ite (interp s)]; rfl
    unfold classifyB FvssQ.bcastBody
    by_cases ho : s.me = o
    · rw [if_pos ho, if_pos ho]; rfl
    rw [if_neg ho, if_neg ho, if_neg hq]
    simp only []
    by_cases hl : m.length = 0
    · rw [if_pos hl, if_pos hl]; exact bad
    rw [if_neg hl, if_neg hl]
    by_cases h1 : m.headD 0 = tagVerifVec
    · rw [if_pos h1, if_pos h1]
      exact dealer_only s o _ _ (fun h => by subst h; rfl) (fun h => rv_other s o h _)
    rw [if_neg h1, if_neg h1]
    by_cases h2 : m.headD 0 = tagComplaint
    · rw [if_pos h2, if_pos h2]
      by_cases hct : s.complaintsTimeout = true
      · rw [if_pos hct, rc_pair, if_pos hct]; rfl
      rw [if_neg hct, rc_eq s o _ hme (by simpa using hct)]
      cases parseC s (m.drop 1) with
      | none => exact bad
      | some ce => simp only [apply_ite (interp s)]; rfl
    rw [if_neg h2, if_neg h2]
    by_cases h3 : m.headD 0 = tagAnswer
    · rw [if_pos h3, if_pos h3]
      refine dealer_only s o _ _ (fun h => ?_) (fun h => by unfold FvssQ.receiveComplaintAnswer; rw [if_pos h])
      subst h
      rw [ra_eq]
      cases parseA s (m.drop 1) with
      | none => rfl
      | some p => rfl
    rw [if_neg h3, if_neg h3]
    exact bad

theorem applyUpd_not_disq (s : St O) (hdq : s.disqualified = false) (K : Nat) (u : Upd) :
    (applyUpd s K u).disqualified = false ↔ u.disq ≠ some true := by
  rw [← Bool.not_eq_true, applyUpd_disq_iff s hdq]

theorem stable_pair (s : St O) (hdq : s.disqualified = false) (K1 K2 : Nat) (F1 F2 : St O → Upd)
    (hK : K2 ≠ K1 ∨ (F1 s).entry = none ∨ (F2 s).entry = none)
    (h1 : (F2 s).disq ≠ some true → F1 (applyUpd s K2 (F2 s)) = F1 s)
    (h2 : (F1 s).disq ≠ some true → F2 (applyUpd s K1 (F1 s)) = F2 s)
    (hx : (F1 s).x = none ∨ (F2 s).x = none) :
    RelP (live (fun t => applyUpd t K2 (F2 t)) (applyUpd s K1 (F1 s)))
         (live (fun t => applyUpd t K1 (F1 t)) (applyUpd s K2 (F2 s))) := by
  rw [live_congr (g' := fun t => applyUpd t K2 (F2 s))
      (fun hd => congrArg (applyUpd _ K2) (h2 ((applyUpd_not_disq s hdq K1 _).1 hd))),
    live_congr (g' := fun t => applyUpd t K1 (F1 s))
      (fun hd => congrArg (applyUpd _ K1) (h1 ((applyUpd_not_disq s hdq K2 _).1 hd)))]
  exact upd_pair s hdq K2 K1 (F1 s) (F2 s) hK hx

theorem cmplF_stable (s : St O) (k K : Nat) (u : Upd) (h : k ≠ K ∨ u.entry = none) :
    cmplF k (applyUpd s K u) = cmplF k s :=
  cmplF_congr k (applyUpd_find_stable s k K u h) (applyUpd_vAReceived s K u) (applyUpd_vA s K u)

theorem ansF_stable (s : St O) (hdq : s.disqualified = false) (j : Nat) (sc : Option Nat) (K : Nat) (u : Upd)
    (h : j ≠ K ∨ u.entry = none) (hu : u.disq ≠ some true) : ansF j sc (applyUpd s K u) = ansF j sc s :=
  ansF_congr j sc (applyUpd_find_stable s j K u h) (applyUpd_vAReceived s K u) (applyUpd_vA s K u)
    (((applyUpd_not_disq s hdq K u).2 hu).trans hdq.symm) (applyUpd_me s K u)

theorem shareF_stable (sh : Bytes) (s : St O) (K : Nat) (u : Upd) (h : s.me ≠ K ∨ u.entry = none) :
    shareF sh (applyUpd s K u) = shareF sh s :=
  shareF_congr sh (applyUpd_me s K u) (by rw [applyUpd_me]; exact applyUpd_find_stable s s.me K u h)
    (applyUpd_vAReceived s K u) (applyUpd_vA s K u)

theorem ansF_x (j : Nat) (sc : Option Nat) (t : St O) (h : j ≠ t.me) : (ansF j sc t).x = none := by
  unfold ansF raU
  have : decide (j = t.me) = false := by simpa using h
  rw [this]
  cases t.find j with
  | none => cases sc <;> rfl
  | some c =>
    simp only []
    split
    · rfl
    · split
      · cases sc <;> simp
      · rfl

def run (s : St O) (k : Kind) : St O := if s.disqualified then s else interp s k

theorem run_eq_live (s : St O) (k : Kind) : run s k = live (fun t => interp t k) s := rfl

theorem run_disq (s : St O) (k : Kind) (h : s.disqualified = true) : run s k = s := if_pos h

theorem run_ok (s : St O) (k : Kind) (h : s.disqualified = false) : run s k = interp s k :=
  live_ok (fun t => interp t k) h

theorem step_run (s : St O) (e : Dl) (hme : s.me ≠ s.dealer) : step s e = run s (classify s e) := by
  unfold run
  by_cases hd : s.disqualified = true
  · rw [if_pos hd, step_disq s e hd]
  · rw [if_neg hd]
    exact step_classify s e hme (by simpa using hd)

/-- invariants of a running instance at a participant other than the dealer -/
structure Inv (s : St O) : Prop where
  hme : s.me ≠ s.dealer
  nodup : KeysNodup s
  wf : EntriesWF s
  vecok : VecOK s
  own : ∀ c, s.find s.me = some c → c.received = true → s.xReceived = true ∨ s.sharesTimeout = true

/-- kinds that the network may deliver in either order -/
def Compat : Kind → Kind → Prop
  | .noop, _ => True
  | _, .noop => True
  | .cmpl k, .cmpl k' => k ≠ k'
  | .cmpl _, _ => True
  | _, .cmpl _ => True
  | .share _, .share _ => False
  | .share _, _ => True
  | _, .share _ => True
  | _, _ => False

/-- a complaint comes from another participant -/
def KOK (s : St O) : Kind → Prop
  | .cmpl k => k ≠ s.me
  | _ => True

theorem rcOk_cfg (s : St O) (k : Nat) : SameCfg s (rcOk s k) := by rw [rcOk_F]; exact applyUpd_cfg _ _ _
theorem raOk_cfg (s : St O) (j : Nat) (sc : Option Nat) : SameCfg s (raOk s j sc) := by
  rw [raOk_F]; exact applyUpd_cfg _ _ _

theorem rcOk_keeps (s : St O) (k : Nat) :
    (rcOk s k).vAReceived = s.vAReceived ∧ (rcOk s k).xReceived = s.xReceived ∧ (rcOk s k).vA = s.vA := by
  rw [rcOk_F]; exact ⟨applyUpd_vAReceived _ _ _, applyUpd_xReceived _ _ _, applyUpd_vA _ _ _⟩

theorem raOk_keeps (s : St O) (j : Nat) (sc : Option Nat) :
    (raOk s j sc).vAReceived = s.vAReceived ∧ (raOk s j sc).xReceived = s.xReceived ∧ (raOk s j sc).vA = s.vA := by
  rw [raOk_F]; exact ⟨applyUpd_vAReceived _ _ _, applyUpd_xReceived _ _ _, applyUpd_vA _ _ _⟩

theorem disq_any (s : St O) (hdq : s.disqualified = false) (k : Kind) : RelP (run (run s .disq) k) (run (run s k) .disq) :=
  have h1 : (run s .disq).disqualified = true := by rw [run_ok s _ hdq]; rfl
  Or.inl ⟨by rw [run_disq _ _ h1]; exact h1, live_absorb (fun t => interp t .disq) (run s k) (fun _ => rfl)⟩

theorem noop_any (s : St O) (k : Kind) : RelP (run (run s .noop) k) (run (run s k) .noop) := by
  have h : ∀ t : St O, run t .noop = t := fun t => live_noop (g := fun t => interp t .noop) rfl
  rw [h s, h (run s k)]
  exact Or.inr (Equiv.refl' _)

theorem pair_cc (s : St O) (hdq : s.disqualified = false) (k k' : Nat) (h : k ≠ k') :
    RelP (run (run s (.cmpl k)) (.cmpl k')) (run (run s (.cmpl k')) (.cmpl k)) := by
  have := stable_pair s hdq k k' (cmplF k) (cmplF k') (Or.inl h.symm)
    (fun _ => cmplF_stable s k k' _ (Or.inl h)) (fun _ => cmplF_stable s k' k _ (Or.inl h.symm))
    (Or.inl (rcU_x _ _ _))
  rw [run_ok s _ hdq, run_ok s _ hdq]
  simp only [← rcOk_F] at this
  exact this

theorem pair_ca (s : St O) (hdq : s.disqualified = false) (hwf : EntriesWF s) (k j : Nat) (sc : Option Nat)
    (hk : k ≠ s.me) :
    RelP (run (run s (.cmpl k)) (.ans j sc)) (run (run s (.ans j sc)) (.cmpl k)) := by
  rw [run_ok s _ hdq, run_ok s _ hdq]
  by_cases h : k = j
  · subst h; exact complaint_answer_same s k sc hk hdq hwf
  · have := stable_pair s hdq k j (cmplF k) (ansF j sc) (Or.inl (Ne.symm h))
      (fun _ => cmplF_stable s k j _ (Or.inl h))
      (fun hu => ansF_stable s hdq j sc k _ (Or.inl (Ne.symm h)) hu)
      (Or.inl (rcU_x _ _ _))
    simp only [← rcOk_F, ← raOk_F] at this
    exact this

theorem pre_applyUpd (sh : Bytes) (s : St O) (K : Nat) (u : Upd) (hx : u.x = none) :
    pre sh (applyUpd s K u) = applyUpd (pre sh s) K u := by
  unfold pre applyUpd
  rw [hx]
  cases parseShare O sh <;> cases u.entry <;> cases u.disq <;> rfl

theorem pre_disq (sh : Bytes) (s : St O) : (pre sh s).disqualified = s.disqualified := by rw [pre_eq]

theorem pre_me (sh : Bytes) (s : St O) : (pre sh s).me = s.me := by rw [pre_eq]

theorem find_pre (sh : Bytes) (s : St O) (k : Nat) : (pre sh s).find k = s.find k := by
  unfold pre; cases parseShare O sh <;> rfl

theorem share_upd (s : St O) (hdq : s.disqualified = false) (sh : Bytes) (K : Nat) (F : St O → Upd)
    (hK : s.me ≠ K ∨ (F s).entry = none) (hx : (F s).x = none)
    (hFpre : F (pre sh s) = F s)
    (hF : ∀ u, u.disq ≠ some true → F (applyUpd (pre sh s) s.me u) = F (pre sh s)) :
    RelP (live (fun t => (FvssQ.receiveShare t t.dealer sh).1) (applyUpd s K (F s)))
         (live (fun t => applyUpd t K (F t)) (FvssQ.receiveShare s s.dealer sh).1) := by
  have eA : (FvssQ.receiveShare (applyUpd s K (F s)) (applyUpd s K (F s)).dealer sh).1 =
      if s.sharesTimeout || s.xReceived then applyUpd s K (F s)
      else applyUpd (applyUpd (pre sh s) K (F s)) s.me (shareF sh s) := by
    rw [rs_upd _ _ rfl, applyUpd_sharesTimeout, applyUpd_xReceived, applyUpd_me, pre_applyUpd sh s K (F s) hx,
      shareF_stable sh s K (F s) hK]
  cases hg : (s.sharesTimeout || s.xReceived)
  case true =>
    -- a late or repeated share is ignored in both orders
    rw [hg] at eA
    exact live_comm_noop (fun t => applyUpd t K (F t)) _ s hdq (by rw [rs_upd s _ rfl, hg]; rfl) eA
  rw [hg] at eA
  rw [rs_upd s _ rfl, hg, live_congr (g' := fun _ => _) (fun _ => eA)]
  have hdqT : (pre sh s).disqualified = false := by rw [pre_disq]; exact hdq
  have key := stable_pair (pre sh s) hdqT K s.me F (fun _ => shareF sh s)
    (by rw [hFpre]; rcases hK with h | h; exact Or.inl h; exact Or.inr (Or.inl h))
    (fun hu => hF _ hu) (fun _ => rfl) (by rw [hFpre]; exact Or.inl hx)
  rw [hFpre] at key
  -- it remains to move the update across `pre` on the left
  have hd : (applyUpd (pre sh s) K (F s)).disqualified = (applyUpd s K (F s)).disqualified := by
    rw [applyUpd_disq, applyUpd_disq, pre_disq]
  cases hA : (applyUpd s K (F s)).disqualified
  · rw [live_ok _ hA]
    rw [live_ok _ (hd.trans hA)] at key
    exact key
  · rw [live_disq _ hA]
    rw [live_disq _ (hd.trans hA)] at key
    exact Or.inl ⟨hA, key.disq_right (hd.trans hA)⟩

theorem pair_cs (s : St O) (hdq : s.disqualified = false) (k : Nat) (hk : k ≠ s.me) (sh : Bytes) :
    RelP (run (run s (.cmpl k)) (.share sh)) (run (run s (.share sh)) (.cmpl k)) := by
  have hkm : s.me ≠ k := fun h => hk h.symm
  have := share_upd s hdq sh k (cmplF k) (Or.inl hkm) (rcU_x _ _ _)
    (cmplF_congr k (find_pre sh s k) (by rw [pre_eq]) (by rw [pre_eq]))
    (fun u _ => cmplF_stable (pre sh s) k s.me u (Or.inl hk))
  rw [run_ok s _ hdq, run_ok s _ hdq]
  simp only [← rcOk_F] at this
  exact this

theorem pair_as (s : St O) (inv : Inv s) (hdq : s.disqualified = false) (j : Nat) (sc : Option Nat) (sh : Bytes) :
    RelP (run (run s (.ans j sc)) (.share sh)) (run (run s (.share sh)) (.ans j sc)) := by
  rw [run_ok s _ hdq, run_ok s _ hdq]
  by_cases hj : j = s.me
  · subst hj
    have cA := raOk_cfg s s.me sc
    show RelP (live (fun t => (FvssQ.receiveShare t t.dealer sh).1) (raOk s s.me sc))
      (live (fun t => raOk t s.me sc) (FvssQ.receiveShare s s.dealer sh).1)
    have eA := rs_total (raOk s s.me sc) _ rfl sh
    rw [cA.sharesTimeout, (raOk_keeps s s.me sc).2.1] at eA
    cases hg : (s.sharesTimeout || s.xReceived)
    case true =>
      rw [hg] at eA
      exact live_comm_noop (fun t => raOk t s.me sc) _ s hdq (by rw [rs_total s _ rfl, hg]; rfl) eA
    rw [hg] at eA
    rw [rs_total s _ rfl, hg, live_congr (g' := fun _ => _) (fun _ => eA)]
    obtain ⟨hst, hx⟩ := Bool.or_eq_false_iff.1 hg
    cases parseShare O sh with
    | none => exact (share_answer_me_bad s sc hdq inv.wf inv.vecok).symm'
    | some x0 =>
      refine (share_answer_me_good s x0 sc hdq inv.wf inv.vecok ?_).symm'
      intro c hc
      cases hr : c.received with
      | false => rfl
      | true =>
        rcases inv.own c hc hr with h | h
        · rw [hx] at h; cases h
        · rw [hst] at h; cases h
  · have hjm : s.me ≠ j := fun h => hj h.symm
    have hdqT : (pre sh s).disqualified = false := by rw [pre_disq]; exact hdq
    have := share_upd s hdq sh j (ansF j sc) (Or.inl hjm) (ansF_x j sc s hj)
      (ansF_congr j sc (find_pre sh s j) (by rw [pre_eq]) (by rw [pre_eq]) (by rw [pre_eq]) (by rw [pre_eq]))
      (fun u hu => ansF_stable (pre sh s) hdqT j sc s.me u (Or.inl hj) hu)
    simp only [← raOk_F] at this
    exact this

theorem pair_cv (s : St O) (inv : Inv s) (hdq : s.disqualified = false) (k : Nat) (hk : k ≠ s.me) (d : Bytes) :
    RelP (run (run s (.cmpl k)) (.vec d)) (run (run s (.vec d)) (.cmpl k)) := by
  rw [run_ok s _ hdq, run_ok s _ hdq]
  have cC := rcOk_cfg s k
  show RelP (live (fun t => (FvssQ.receiveVerifVector t t.dealer d).1) (rcOk s k))
    (live (fun t => rcOk t k) (FvssQ.receiveVerifVector s s.dealer d).1)
  have eA := rv_total (rcOk s k) _ rfl d
  rw [cC.sharesTimeout, (rcOk_keeps s k).1, parseVec_cfg s _ cC] at eA
  cases hg : (s.sharesTimeout || s.vAReceived)
  case true =>
    -- the vector is late or a duplicate: ignored in both orders
    rw [hg] at eA
    exact live_comm_noop (fun t => rcOk t k) _ s hdq (by rw [rv_total s _ rfl, hg]; rfl) eA
  rw [hg] at eA
  rw [rv_total s _ rfl, hg, live_congr (g' := fun _ => _) (fun _ => eA)]
  cases parseVec s d with
  | none => exact Or.inl ⟨live_absorb vecBad _ (fun _ => rfl), rfl⟩
  | some v => exact (vec_complaint s v k hk inv.nodup inv.wf hdq (Bool.or_eq_false_iff.1 hg).2).symm'

theorem classify_cfg (s t : St O) (h : SameCfg s t) (e : Dl) : classify t e = classify s e := by
  obtain ⟨h1, h2, h3, _, _, h6, _⟩ := h
  cases e with
  | bcast o m =>
    show classifyB t o m = classifyB s o m
    unfold classifyB parseC parseA
    rw [h1, h2, h3, h6]
  | priv o m =>
    show (if t.me = o then Kind.noop else if o = t.dealer then Kind.share m else Kind.noop) = _
    rw [h1, h2]; rfl

theorem interp_cfg (s : St O) (k : Kind) : SameCfg s (interp s k) := by
  cases k with
  | noop => exact SameCfg.rfl' s
  | disq => exact SameCfg.rfl' s
  | cmpl k => exact rcOk_cfg s k
  | ans j sc => exact raOk_cfg s j sc
  | vec d => exact (rv_cfg s s.dealer d).1
  | share d => exact (rs_cfg s s.dealer d).1

theorem run_cfg (s : St O) (k : Kind) : SameCfg s (run s k) := by
  unfold run
  split
  · exact SameCfg.rfl' s
  · exact interp_cfg s k

theorem pair_vs (s : St O) (inv : Inv s) (d sh : Bytes) :
    RelP (run (run s (.vec d)) (.share sh)) (run (run s (.share sh)) (.vec d)) := by
  have hme := inv.hme
  have eV : ∀ t : St O, SameCfg s t → (FvssQ.bcastBody t s.dealer (tagVerifVec :: d)).1 = run t (.vec d) := by
    intro t c
    rw [bvec_eq t s.dealer c.dealer.symm (by rw [c.me, c.dealer]; exact hme), ← c.dealer]
    rfl
  have eS : ∀ t : St O, SameCfg s t → (FvssQ.privBody t s.dealer sh).1 = run t (.share sh) := by
    intro t c
    rw [priv_eq t s.dealer c.dealer.symm (by rw [c.me, c.dealer]; exact hme), ← c.dealer]
    rfl
  have key := (share_vector_commute s hme inv.nodup d sh).toP
  rwa [eV s (SameCfg.rfl' s), eS s (SameCfg.rfl' s), eS _ (run_cfg s _), eV _ (run_cfg s _)] at key

theorem kind_pair (s : St O) (inv : Inv s) (hdq : s.disqualified = false) (k1 k2 : Kind) (hc : Compat k1 k2)
    (ok1 : KOK s k1) (ok2 : KOK s k2) : RelP (run (run s k1) k2) (run (run s k2) k1) := by
  cases k1 with
  | noop => exact noop_any s k2
  | disq =>
    cases k2 with
    | noop => exact (noop_any s .disq).symm'
    | disq => exact absurd hc (by simp [Compat])
    | cmpl k => exact disq_any s hdq _
    | ans j sc => exact absurd hc (by simp [Compat])
    | vec d => exact absurd hc (by simp [Compat])
    | share d => exact disq_any s hdq _
  | cmpl k =>
    cases k2 with
    | noop => exact (noop_any s _).symm'
    | disq => exact (disq_any s hdq _).symm'
    | cmpl k' => exact pair_cc s hdq k k' hc
    | ans j sc => exact pair_ca s hdq inv.wf k j sc ok1
    | vec d => exact pair_cv s inv hdq k ok1 d
    | share d => exact pair_cs s hdq k ok1 d
  | ans j sc =>
    cases k2 with
    | noop => exact (noop_any s _).symm'
    | disq => exact absurd hc (by simp [Compat])
    | cmpl k => exact (pair_ca s hdq inv.wf k j sc ok2).symm'
    | ans j' sc' => exact absurd hc (by simp [Compat])
    | vec d => exact absurd hc (by simp [Compat])
    | share d => exact pair_as s inv hdq j sc d
  | vec d =>
    cases k2 with
    | noop => exact (noop_any s _).symm'
    | disq => exact absurd hc (by simp [Compat])
    | cmpl k => exact (pair_cv s inv hdq k ok2 d).symm'
    | ans j sc => exact absurd hc (by simp [Compat])
    | vec d' => exact absurd hc (by simp [Compat])
    | share sh => exact pair_vs s inv d sh
  | share sh =>
    cases k2 with
    | noop => exact (noop_any s _).symm'
    | disq => exact (disq_any s hdq _).symm'
    | cmpl k => exact (pair_cs s hdq k ok2 sh).symm'
    | ans j sc => exact (pair_as s inv hdq j sc sh).symm'
    | vec d => exact (pair_vs s inv d sh).symm'
    | share sh' => exact absurd hc (by simp [Compat])

/-- where a kind of delivery comes from: sender and channel (`none`: ignored anyway) -/
def src (s : St O) : Kind → Option (Nat × Bool)
  | .noop => none
  | .disq => some (s.dealer, false)
  | .cmpl k => some (k, false)
  | .ans _ _ => some (s.dealer, false)
  | .vec _ => some (s.dealer, false)
  | .share _ => some (s.dealer, true)

theorem compat_of_src (s : St O) (k1 k2 : Kind) (h : src s k1 = none ∨ src s k2 = none ∨ src s k1 ≠ src s k2) :
    Compat k1 k2 := by
  cases k1 <;> cases k2 <;> simp [Compat, src] at h ⊢
  · intro hk; exact h hk

/-- Case rule: `P` holds of the kind of a broadcast of `o` if it holds of each kind under what sender, tag and
    payload must then be. -/
theorem classifyB_cases {P : Kind → Prop} (s : St O) (o : Nat) (m : Bytes) (noop : P .noop)
    (disq : o = s.dealer → P .disq) (vec : o = s.dealer → P (.vec (m.drop 1)))
    (cmpl : s.me ≠ o → o ≠ s.dealer → m.length ≠ 0 → m.headD 0 = tagComplaint → s.complaintsTimeout = false →
      parseC s (m.drop 1) = some s.dealer → P (.cmpl o))
    (ans : o = s.dealer → ∀ j sc, parseA s (m.drop 1) = some (j, sc) → P (.ans j sc)) : P (classifyB s o m) := by
  have other : P (if o = s.dealer then .disq else .noop) := by
    by_cases hod : o = s.dealer
    · rw [if_pos hod]; exact disq hod
    · rw [if_neg hod]; exact noop
  unfold classifyB
  by_cases ho : s.me = o
  · rw [if_pos ho]; exact noop
  rw [if_neg ho]
  by_cases hl : m.length = 0
  · rw [if_pos hl]; exact other
  rw [if_neg hl]
  by_cases h1 : m.headD 0 = tagVerifVec
  · rw [if_pos h1]
    by_cases hod : o = s.dealer
    · rw [if_pos hod]; exact vec hod
    · rw [if_neg hod]; exact noop
  rw [if_neg h1]
  by_cases h2 : m.headD 0 = tagComplaint
  · rw [if_pos h2]
    cases hct : s.complaintsTimeout
    · rw [if_neg Bool.false_ne_true]
      cases hp : parseC s (m.drop 1) with
      | none => exact other
      | some ce =>
        show P (if o = s.dealer then .noop else if ce ≠ s.dealer then .noop else .cmpl o)
        by_cases hod : o = s.dealer
        · rw [if_pos hod]; exact noop
        rw [if_neg hod]
        by_cases hce : ce ≠ s.dealer
        · rw [if_pos hce]; exact noop
        · rw [if_neg hce]; exact cmpl ho hod hl h2 hct (by rw [hp, Classical.not_not.1 hce])
    · rw [if_pos rfl]; exact noop
  rw [if_neg h2]
  by_cases h3 : m.headD 0 = tagAnswer
  · rw [if_pos h3]
    by_cases hod : o = s.dealer
    · rw [if_pos hod]
      cases hp : parseA s (m.drop 1) with
      | none => exact disq hod
      | some p => exact ans hod p.1 p.2 hp
    · rw [if_neg hod]; exact noop
  · rw [if_neg h3]; exact other

/-- what the dealer sends in round one is classified as its vector and its share -/
theorem classify_vec (s : St O) (o : Nat) (ho : o = s.dealer) (hme : s.me ≠ o) (d : Bytes) :
    classify s (.bcast o (tagVerifVec :: d)) = .vec d := by
  show classifyB s o (tagVerifVec :: d) = _
  rw [classifyB, if_neg hme, if_neg (List.cons_ne_nil _ _ ∘ List.eq_nil_of_length_eq_zero),
    if_pos (show (tagVerifVec :: d).headD 0 = tagVerifVec from rfl), if_pos ho]
  rfl

theorem classify_share (s : St O) (o : Nat) (ho : o = s.dealer) (hme : s.me ≠ o) (m : Bytes) :
    classify s (.priv o m) = .share m := by
  show (if s.me = o then Kind.noop else if o = s.dealer then Kind.share m else Kind.noop) = _
  rw [if_neg hme, if_pos ho]

theorem classifyB_src (s : St O) (o : Nat) (m : Bytes) :
    (src s (classifyB s o m) = none ∨ src s (classifyB s o m) = some (o, false)) ∧ KOK s (classifyB s o m) :=
  classifyB_cases (P := fun K => (src s K = none ∨ src s K = some (o, false)) ∧ KOK s K) s o m
    ⟨Or.inl rfl, trivial⟩ (fun h => ⟨Or.inr (by rw [h]; rfl), trivial⟩) (fun h => ⟨Or.inr (by rw [h]; rfl), trivial⟩)
    (fun hme _ _ _ _ _ => ⟨Or.inr rfl, fun h => hme h.symm⟩) (fun h _ _ _ => ⟨Or.inr (by rw [h]; rfl), trivial⟩)

theorem classify_src (s : St O) (e : Dl) :
    (src s (classify s e) = none ∨ src s (classify s e) = some (e.sender, e.isPriv)) ∧ KOK s (classify s e) := by
  cases e with
  | bcast o m => exact classifyB_src s o m
  | priv o m =>
    have hc : classify s (Dl.priv o m) = (if s.me = o then Kind.noop else if o = s.dealer then Kind.share m else Kind.noop) := rfl
    rw [hc]
    by_cases h1 : s.me = o
    · rw [if_pos h1]; exact ⟨Or.inl rfl, trivial⟩
    · rw [if_neg h1]
      by_cases h2 : o = s.dealer
      · rw [if_pos h2]
        refine ⟨Or.inr ?_, trivial⟩
        show some (s.dealer, true) = some (o, true)
        rw [h2]
      · rw [if_neg h2]; exact ⟨Or.inl rfl, trivial⟩

theorem compat_of_reorderable (s : St O) (e1 e2 : Dl) (h : reorderable e1 e2) :
    Compat (classify s e1) (classify s e2) ∧ KOK s (classify s e1) ∧ KOK s (classify s e2) := by
  obtain ⟨a1, b1⟩ := classify_src s e1
  obtain ⟨a2, b2⟩ := classify_src s e2
  refine ⟨compat_of_src s _ _ ?_, b1, b2⟩
  rcases a1 with a1 | a1
  · exact Or.inl a1
  rcases a2 with a2 | a2
  · exact Or.inr (Or.inl a2)
  right; right
  rw [a1, a2]
  intro heq
  have h1 : e1.sender = e2.sender := congrArg Prod.fst (Option.some.inj heq)
  have h2 : e1.isPriv = e2.isPriv := congrArg Prod.snd (Option.some.inj heq)
  rcases h with h | h
  · exact h h1
  · exact h h2

/-- **any two deliveries that the network may reorder commute** at an honest participant other than the dealer:
    both orders end disqualified, or in the same state up to the order of the complaint table -/
theorem step_pair (s : St O) (inv : Inv s) (e1 e2 : Dl) (hr : reorderable e1 e2) :
    RelP (step (step s e1) e2) (step (step s e2) e1) := by
  have hme := inv.hme
  by_cases hd : s.disqualified = true
  · rw [step_disq s e1 hd, step_disq s e2 hd, step_disq s e1 hd]
    exact Or.inr (Equiv.refl' _)
  have hdq : s.disqualified = false := by simpa using hd
  obtain ⟨hc, ok1, ok2⟩ := compat_of_reorderable s e1 e2 hr
  have c1 := run_cfg s (classify s e1)
  have c2 := run_cfg s (classify s e2)
  rw [step_run s e1 hme, step_run s e2 hme,
    step_run _ e2 (by rw [c1.1, c1.2.1]; exact hme), step_run _ e1 (by rw [c2.1, c2.2.1]; exact hme),
    classify_cfg s _ c1, classify_cfg s _ c2]
  exact kind_pair s inv hdq _ _ hc ok1 ok2

end Proofs.DkgCommute
