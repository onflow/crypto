import Mathlib.Data.ZMod.Basic
import Mathlib.Algebra.Field.ZMod
import Mathlib.Algebra.Module.Basic
import Mathlib.Algebra.Module.Torsion.Field
import Mathlib.Data.Fintype.Pi
import Mathlib.Data.Fintype.BigOperators
import Mathlib.Algebra.BigOperators.Group.Finset.Basic

/-! Counting the coefficient vectors for which batch verification can differ from individual verification:
for a fixed set of positions containing a defective one, at most `N^(n-1)` of the `N^n` vectors make the
blinded defects of the set cancel; for a family of such sets, at most that many per set. -/

namespace Proofs.BatchCount
open Finset

variable {r : ℕ} [Fact r.Prime] {G : Type*} [AddCommGroup G] [Module (ZMod r) G]

/-- the coefficient drawn for one signature: `rand + 1` with `rand < N`, as a scalar -/
def coef (N : ℕ) (x : Fin N) : ZMod r := ((x.val + 1 : ℕ) : ZMod r)

theorem coef_injective (N : ℕ) (hN : N < r) : Function.Injective (coef (r := r) N) := by
  intro a b h
  unfold coef at h
  have := (ZMod.natCast_eq_natCast_iff' _ _ _).1 h
  rw [Nat.mod_eq_of_lt (by have := a.isLt; omega), Nat.mod_eq_of_lt (by have := b.isLt; omega)] at this
  exact Fin.ext (by omega)

theorem coef_ne_zero (N : ℕ) (hN : N < r) (x : Fin N) : coef (r := r) N x ≠ 0 := by
  intro hz
  have := Nat.le_of_dvd x.val.succ_pos ((ZMod.natCast_eq_zero_iff _ _).1 hz)
  have := x.isLt
  omega

open Classical in
noncomputable def cancelSet (r : ℕ) [Fact r.Prime] {G : Type*} [AddCommGroup G] [Module (ZMod r) G]
    (n N : ℕ) (δ : Fin n → G) (S : Finset (Fin n)) : Finset (Fin n → Fin N) :=
  Finset.univ.filter (fun c => ∑ i ∈ S, coef (r := r) N (c i) • δ i = 0)

/-- **a defective position pins its coefficient**: once the other coefficients are chosen, at most one value of
    the coefficient at `j` makes the sum vanish; hence at most `N^(n-1)` cancelling vectors -/
theorem cancelSet_card (n N : ℕ) (hN : N < r) (δ : Fin n → G) (S : Finset (Fin n)) (j : Fin n) (hj : j ∈ S)
    (hd : δ j ≠ 0) : (cancelSet r n N δ S).card ≤ N ^ (n - 1) := by
  classical
  let restr : (Fin n → Fin N) → ({i : Fin n // i ≠ j} → Fin N) := fun c i => c i.1
  have hinj : Set.InjOn restr (cancelSet r n N δ S : Set (Fin n → Fin N)) := by
    intro c hc c' hc' hr
    have hoth : ∀ i, i ≠ j → c i = c' i := fun i hi => congrFun hr ⟨i, hi⟩
    have hc := (Finset.mem_filter.1 (Finset.mem_coe.1 hc)).2
    have hc' := (Finset.mem_filter.1 (Finset.mem_coe.1 hc')).2
    -- the two sums agree away from j, so they agree at j
    rw [← Finset.add_sum_erase S _ hj] at hc hc'
    rw [Finset.sum_congr rfl fun i hi => by rw [hoth i (Finset.ne_of_mem_erase hi)]] at hc
    have hcj : c j = c' j :=
      coef_injective N hN (smul_left_injective _ hd (add_right_cancel (hc.trans hc'.symm)))
    funext i
    by_cases hi : i = j
    · rw [hi, hcj]
    · exact hoth i hi
  calc (cancelSet r n N δ S).card
      ≤ (Finset.univ : Finset ({i : Fin n // i ≠ j} → Fin N)).card :=
        Finset.card_le_card_of_injOn restr (fun _ _ => Finset.mem_univ _) hinj
    _ = N ^ (n - 1) := by
        rw [Finset.card_univ, Fintype.card_fun, Fintype.card_fin, Fintype.card_subtype_compl, Fintype.card_fin]
        simp

/-- the bad vectors for a family `F` of sets of positions: over some set of the family that contains a defective
    position the blinded defects sum to zero -/
noncomputable def badSet (r : ℕ) [Fact r.Prime] {G : Type*} [AddCommGroup G] [Module (ZMod r) G]
    (n N : ℕ) (δ : Fin n → G) (F : Finset (Finset (Fin n))) : Finset (Fin n → Fin N) :=
  @Finset.filter _ (fun c => ∃ S ∈ F, (∃ j ∈ S, δ j ≠ 0) ∧ ∑ i ∈ S, coef (r := r) N (c i) • δ i = 0)
    (Classical.decPred _) Finset.univ

theorem mem_badSet (n N : ℕ) (δ : Fin n → G) (F : Finset (Finset (Fin n))) (c : Fin n → Fin N) :
    c ∈ badSet r n N δ F ↔ ∃ S ∈ F, (∃ j ∈ S, δ j ≠ 0) ∧ ∑ i ∈ S, coef (r := r) N (c i) • δ i = 0 :=
  (@Finset.mem_filter _ _ (Classical.decPred _) _ _).trans (and_iff_right (Finset.mem_univ c))

theorem badSet_card (n N : ℕ) (hN : N < r) (δ : Fin n → G) (F : Finset (Finset (Fin n))) :
    (badSet r n N δ F).card ≤ F.card * N ^ (n - 1) := by
  classical
  have hsub : badSet r n N δ F ⊆ (F.filter fun S => ∃ j ∈ S, δ j ≠ 0).biUnion (cancelSet r n N δ) := by
    intro c hc
    obtain ⟨S, hS, hj, hs⟩ := (mem_badSet n N δ F c).1 hc
    exact Finset.mem_biUnion.2 ⟨S, Finset.mem_filter.2 ⟨hS, hj⟩, Finset.mem_filter.2 ⟨Finset.mem_univ _, hs⟩⟩
  calc (badSet r n N δ F).card
      ≤ ∑ S ∈ F.filter fun S => ∃ j ∈ S, δ j ≠ 0, (cancelSet r n N δ S).card :=
        (Finset.card_le_card hsub).trans Finset.card_biUnion_le
    _ ≤ ∑ _S ∈ F.filter fun S => ∃ j ∈ S, δ j ≠ 0, N ^ (n - 1) :=
        Finset.sum_le_sum fun S hS => by
          obtain ⟨j, hj, hd⟩ := (Finset.mem_filter.1 hS).2
          exact cancelSet_card n N hN δ S j hj hd
    _ ≤ F.card * N ^ (n - 1) := by
        rw [Finset.sum_const, smul_eq_mul]
        exact Nat.mul_le_mul_right _ (Finset.card_filter_le _ _)

end Proofs.BatchCount
