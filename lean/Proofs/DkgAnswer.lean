import Proofs.DkgEmit

/-! The answers of an honest dealer: the dealer's own instance answers a first complaint at once with the complainer's
share (`dealer_answers`), and - under `OpsLaws` - a receiver classifies that broadcast as a valid answer
(`answer_allowed`): the answer part (the last conjunct) of `OwnNet` for the dealer's own emission. -/

namespace Proofs.DkgAgree
open Model Model.Dkg Proofs.DkgCommute

variable {O : Ops}

/-- **the dealer answers a first complaint at once**: a well-formed complaint of `o` against the dealer, received by the
    dealer's own (qualified) instance before the complaints timeout and not registered yet, makes it broadcast the
    answer carrying `a(o+1)` for the polynomial `s.a` it drew at `Start` - and nothing else -/
theorem dealer_answers (s : St O) (hmd : s.me = s.dealer) (hndq : s.disqualified = false)
    (hct : s.complaintsTimeout = false) (hd : s.dealer < 256) (hds : s.dealer < s.size) (o : Nat) (hod : o ≠ s.dealer)
    (hf : s.find o = none) :
    stepOuts s (.bcast o (cmplMsg s.dealer)) =
      [Out.bcast (tagAnswer :: UInt8.ofNat o :: O.writeScalar (O.polyEval s.a (o + 1)))] := by
  show (FvssQ.bcastBody s o (tagComplaint :: [UInt8.ofNat s.dealer])).2 = _
  -- the payload names the dealer: the complaint is registered and answered at once
  rw [bcmpl_eq, if_neg (by rw [hmd]; exact fun h => hod h.symm), if_neg (by rw [hndq]; exact Bool.false_ne_true),
    rc_pair, if_neg (by rw [hct]; exact Bool.false_ne_true), parseC_dealer s hd hds]
  simp only []
  rw [if_neg (fun h => h.elim hod (fun h => h rfl)), hf]
  simp only []
  rw [if_pos hmd, buildAnswer_setC]

/-- **and a receiver accepts the answer**: the broadcast of `dealer_answers` is classified by `rcv`'s instance, in every
    state before or after the complaints timeout, as the dealer's answer for `o` with the share `a(o+1)`, which passes
    the check against the dealer's vector -/
theorem answer_allowed (size threshold dealer rcv o : Nat) (hne : rcv ≠ dealer) (hr : rcv < size) (ho : o < size)
    (ho256 : o < 256) (a : List Nat) (L : OpsLaws O size threshold a) (hx : O.polyEval a (o + 1) ≠ 0) (ct : Bool)
    (t : St O) (ht : CfgCT (fresh O size threshold rcv dealer) ct t) :
    classify t (.bcast dealer (tagAnswer :: UInt8.ofNat o :: O.writeScalar (O.polyEval a (o + 1)))) =
      .ans o (some (O.polyEval a (o + 1))) ∧
    AllowedK (honestOf size threshold a L rcv hr) t (.ans o (some (O.polyEval a (o + 1)))) := by
  obtain ⟨h1, h2, h3, _, _⟩ := ht
  have e1 : t.me = rcv := h1
  have e2 : t.dealer = dealer := h2
  have e3 : t.size = size := h3
  refine ⟨?_, ⟨_, rfl, L.shareOk o ho⟩⟩
  show classifyB t dealer (tagAnswer :: UInt8.ofNat o :: O.writeScalar (O.polyEval a (o + 1))) = _
  unfold classifyB
  rw [if_neg (by rw [e1]; exact hne), if_neg (by simp)]
  have hh : (tagAnswer :: UInt8.ofNat o :: O.writeScalar (O.polyEval a (o + 1))).headD 0 = tagAnswer := rfl
  rw [if_neg (by rw [hh]; decide), if_neg (by rw [hh]; decide), if_pos hh, if_pos e2.symm]
  show (match parseA t (UInt8.ofNat o :: O.writeScalar (O.polyEval a (o + 1))) with
    | none => Kind.disq | some (j, sc) => Kind.ans j sc) = _
  unfold parseA
  have hlen : (UInt8.ofNat o :: O.writeScalar (O.polyEval a (o + 1))).length = 1 + shareSize := by
    rw [List.length_cons, L.shareLen]; omega
  have hval : ((UInt8.ofNat o :: O.writeScalar (O.polyEval a (o + 1))).headD 0).toNat = o := by
    show (UInt8.ofNat o).toNat = o
    rw [UInt8.toNat_ofNat']; omega
  rw [if_neg (fun h => h hlen), hval, e3, if_neg (by omega)]
  show Kind.ans o (O.readScalar (O.writeScalar (O.polyEval a (o + 1)))) = _
  rw [L.shareRead _ hx]

end Proofs.DkgAgree
