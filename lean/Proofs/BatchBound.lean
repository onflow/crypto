import Proofs.AbsBatch
import Proofs.BatchCount

/-! The bad set of coefficient vectors (`Proofs.BatchCount.badSet`) is small: for all but at most `(n+1)² · 2^(128(n-1))`
of the `2^(128 n)` vectors the scaled defect vector is `GoodVec` (`Proofs/AbsBatch.lean`). -/

namespace Proofs.BatchBound
open Proofs.BatchCount

variable {r : ℕ} [Fact r.Prime] {G : Type*} [AddCommGroup G] [Module (ZMod r) G]

def segList (n a b : ℕ) : List (Fin n) := ((List.finRange n).drop a).take b

def seg (n a b : ℕ) : Finset (Fin n) := (segList n a b).toFinset

theorem segList_nodup (n a b : ℕ) : (segList n a b).Nodup :=
  (List.nodup_finRange n).sublist ((List.take_sublist _ _).trans (List.drop_sublist _ _))

theorem ofFn_drop_take {α : Type*} {n : ℕ} (f : Fin n → α) (a b : ℕ) :
    ((List.ofFn f).drop a).take b = (segList n a b).map f := by
  rw [List.ofFn_eq_map, segList, List.map_take, List.map_drop]

def segs (n : ℕ) : Finset (Finset (Fin n)) :=
  (Finset.range (n + 1) ×ˢ Finset.range (n + 1)).image fun ab => seg n ab.1 ab.2

theorem segs_card (n : ℕ) : (segs n).card ≤ (n + 1) ^ 2 :=
  Finset.card_image_le.trans (by rw [Finset.card_product, Finset.card_range, pow_two])

theorem seg_mem_segs {n a b : ℕ} {j : Fin n} (hj : j ∈ segList n a b) : seg n a b ∈ segs n := by
  have ha : 0 < ((List.finRange n).drop a).length := List.length_pos_of_mem (List.mem_of_mem_take hj)
  rw [List.length_drop, List.length_finRange] at ha
  have hb : seg n a b = seg n a (min b n) :=
    congrArg List.toFinset (List.take_eq_take_iff.2 (by rw [List.length_drop, List.length_finRange]; omega))
  rw [hb]
  exact Finset.mem_image.2 ⟨(a, min b n), Finset.mem_product.2
    ⟨Finset.mem_range.2 (by omega), Finset.mem_range.2 (by omega)⟩, rfl⟩

/-- **the bad vectors are few**: for all but at most `(n+1)² · N^(n-1)` of the `N^n` coefficient vectors (with
    `N = 2^128`: a fraction of at most `(n+1)² / 2^128`) no segment of the blinded defects that contains a non-zero
    entry sums to zero -/
theorem bad_vectors_few (n N : ℕ) (hN : N < r) (δ : Fin n → G) :
    ∃ B : Finset (Fin n → Fin N), B.card ≤ (n + 1) ^ 2 * N ^ (n - 1) ∧
      ∀ c, c ∉ B → GoodVec (List.ofFn fun i => coef (r := r) N (c i) • δ i) := by
  refine ⟨badSet r n N δ (segs n), (badSet_card n N hN δ _).trans (Nat.mul_le_mul_right _ (segs_card n)),
    fun c hc a b => ?_⟩
  rw [ofFn_drop_take, ← List.sum_toFinset _ (segList_nodup n a b)]
  rintro ⟨d, hd, hne⟩ hsum
  obtain ⟨j, hj, rfl⟩ := List.mem_map.1 hd
  exact hc ((mem_badSet n N δ _ c).2
    ⟨seg n a b, seg_mem_segs hj, ⟨j, List.mem_toFinset.2 hj, right_ne_zero_of_smul hne⟩, hsum⟩)

end Proofs.BatchBound
