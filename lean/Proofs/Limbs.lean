import Mathlib.Tactic.NormNum
import Mathlib.Algebra.BigOperators.Group.Finset.Basic
import Mathlib.Algebra.Order.BigOperators.Group.List
import Mathlib.Algebra.Order.Group.Nat
import Model.Threshold

/-! The limb-batched loop of `Fr_lagrange_coeff_at_zero` computes the plain products: 8 factors below 2^8
never overflow a 64-bit limb, the batches partition the positions, the sign is the parity of the number of
nodes below `x_i`. -/

namespace Proofs.Limbs
open Model.Threshold

section prodOthers
variable {M : Type*} [CommMonoid M] (i : Nat) (f : Nat → M)

def prodOthers (js : List Nat) : M := ((js.filter (· ≠ i)).map f).prod

theorem prodOthers_nil : prodOthers i f [] = 1 := rfl

theorem prodOthers_cons (j : Nat) (js : List Nat) :
    prodOthers i f (j :: js) = if j = i then prodOthers i f js else f j * prodOthers i f js := by
  by_cases h : j = i <;> simp [prodOthers, h]

theorem prodOthers_append (a b : List Nat) : prodOthers i f (a ++ b) = prodOthers i f a * prodOthers i f b := by
  simp only [prodOthers, List.filter_append, List.map_append, List.prod_append]

theorem prodOthers_eq_prod (js : List Nat) (hnd : js.Nodup) :
    prodOthers i f js = ∏ j ∈ js.toFinset.erase i, f j := by
  rw [prodOthers, ← List.prod_toFinset f (hnd.filter _), List.toFinset_filter]
  congr 1
  ext j
  simp [and_comm]

theorem prodOthers_le_pow (f : Nat → Nat) (b : Nat) (hb : 0 < b) (hf : ∀ j, f j ≤ b) (js : List Nat) :
    prodOthers i f js ≤ b ^ js.length := by
  refine (List.prod_le_pow_card _ b ?_).trans ?_
  · intro x hx
    obtain ⟨j, -, rfl⟩ := List.mem_map.1 hx
    exact hf j
  · rw [List.length_map]
    exact Nat.pow_le_pow_right hb (List.length_filter_le _ _)

end prodOthers

variable (indices : List Nat) (i : Nat)

/-- absolute difference, as the C code forms it (`x_j - x_i` or `x_i - x_j`, whichever is not negative) -/
def dist (a b : Nat) : Nat := if a < b then b - a else a - b

theorem dist_of_lt {a b : Nat} (h : a < b) : dist a b = b - a := if_pos h

theorem dist_of_not_lt {a b : Nat} (h : ¬ a < b) : dist a b = a - b := if_neg h

/-- node `x_j` of position `j`, read as `Model.Threshold.batch` reads it -/
def node (j : Nat) : Nat := indices.getD j 0

def gap (j : Nat) : Nat := dist (node indices j) (node indices i)

/-- sign flips: parity of `#{j ∈ js, j ≠ i, x_j < x_i}` -/
def flips : List Nat → Bool
  | [] => false
  | j :: js => if j = i then flips js else xor (decide (node indices j < node indices i)) (flips js)

theorem flips_append (a b : List Nat) : flips indices i (a ++ b) = xor (flips indices i a) (flips indices i b) := by
  induction a with
  | nil => simp [flips]
  | cons j a ih =>
    by_cases h : j = i
    · simp [flips, h, ih]
    · simp only [List.cons_append, flips, h, if_false, ih, Bool.xor_assoc]

theorem batch_eq (js : List Nat) (n d : Nat) (sg : Bool) (hn : n < 2 ^ 64) (hd : d < 2 ^ 64) :
    batch indices i js (n, d, sg) =
      ((n * prodOthers i (node indices) js) % 2 ^ 64, (d * prodOthers i (gap indices i) js) % 2 ^ 64, xor sg (flips indices i js)) := by
  induction js generalizing n d sg with
  | nil =>
    simp only [batch, flips, prodOthers_nil, Nat.mul_one, Bool.xor_false, Nat.mod_eq_of_lt hn, Nat.mod_eq_of_lt hd]
  | cons j js ih =>
    unfold batch
    by_cases hji : j = i
    · simp only [hji, if_true, prodOthers_cons, flips]
      exact ih n d sg hn hd
    · simp only [hji, if_false, prodOthers_cons, flips, ← node.eq_1]
      by_cases hlt : node indices j < node indices i
      · simp only [hlt, if_true, decide_true]
        rw [ih _ _ _ (Nat.mod_lt _ (by norm_num)) (Nat.mod_lt _ (by norm_num)), gap, dist_of_lt hlt]
        simp only [Nat.mod_mul_mod, Nat.mul_assoc, Bool.true_xor, Bool.xor_not, Bool.not_xor]
      · simp only [hlt, if_false, decide_false]
        rw [ih _ _ _ (Nat.mod_lt _ (by norm_num)) (Nat.mod_lt _ (by norm_num)), gap, dist_of_not_lt hlt]
        simp only [Nat.mod_mul_mod, Nat.mul_assoc, Bool.false_xor]

theorem pow_bound (k : Nat) (hk : k ≤ 8) : 255 ^ k < 2 ^ 64 :=
  lt_of_le_of_lt (Nat.pow_le_pow_right (by norm_num) hk) (by norm_num)

theorem dist_le (a b : Nat) (ha : a ≤ 255) (hb : b ≤ 255) : dist a b ≤ 255 := by
  unfold dist; split <;> omega

theorem getD_le (hb : ∀ x ∈ indices, x ≤ 255) (j : Nat) : indices.getD j 0 ≤ 255 := by
  rw [List.getD_eq_getElem?_getD]
  cases h : indices[j]? with
  | none => exact Nat.zero_le _
  | some x => exact hb x (List.mem_of_getElem? h)

theorem batch_exact (hb : ∀ x ∈ indices, x ≤ 255) (js : List Nat) (hl : js.length ≤ 8) (sg : Bool) :
    batch indices i js (1, 1, sg) = (prodOthers i (node indices) js, prodOthers i (gap indices i) js, xor sg (flips indices i js)) := by
  have h1 := (prodOthers_le_pow i (node indices) 255 (by norm_num) (getD_le indices hb) js).trans_lt (pow_bound _ hl)
  have h2 := (prodOthers_le_pow i (gap indices i) 255 (by norm_num) (fun j => dist_le _ _ (getD_le indices hb j) (getD_le indices hb i)) js).trans_lt
    (pow_bound _ hl)
  rw [batch_eq indices i js 1 1 sg (by norm_num) (by norm_num), Nat.one_mul, Nat.one_mul, Nat.mod_eq_of_lt h1,
    Nat.mod_eq_of_lt h2]

theorem batches_flatten (loops : Nat) (hl : 0 < loops) (fuel : Nat) (l : List Nat) (hf : l.length < fuel) :
    (batches loops fuel l).flatten = l := by
  induction fuel generalizing l with
  | zero => omega
  | succ fuel ih =>
    unfold batches
    by_cases he : l.isEmpty
    · simp only [he, if_true, List.flatten_nil]
      exact (List.isEmpty_iff.1 he).symm
    · simp only [he, Bool.false_eq_true, if_false, List.flatten_cons]
      have hpos : 0 < l.length := List.length_pos_iff.2 fun h => he (h ▸ rfl)
      rw [ih (l.drop loops) (by rw [List.length_drop]; omega), List.take_append_drop]

theorem batches_len (loops fuel : Nat) (l : List Nat) : ∀ b ∈ batches loops fuel l, b.length ≤ loops := by
  induction fuel generalizing l with
  | zero => intro b hb; cases hb
  | succ fuel ih =>
    intro b hb
    unfold batches at hb
    by_cases he : l.isEmpty
    · rw [if_pos he] at hb; cases hb
    · rw [if_neg he, List.mem_cons] at hb
      rcases hb with rfl | hb
      · exact List.length_take_le _ _
      · exact ih _ b hb

theorem fold_spec (r : Nat) (hb : ∀ x ∈ indices, x ≤ 255) (bs : List (List Nat)) (hbs : ∀ b ∈ bs, b.length ≤ 8)
    (n d : Nat) (sg : Bool) :
    bs.foldl (fun (acc : Nat × Nat × Bool) js =>
        let (n, d, sg) := batch indices i js (1, 1, acc.2.2)
        (acc.1 * n % r, acc.2.1 * d % r, sg)) (n % r, d % r, sg) =
      ((n * prodOthers i (node indices) bs.flatten) % r, (d * prodOthers i (gap indices i) bs.flatten) % r,
        xor sg (flips indices i bs.flatten)) := by
  induction bs generalizing n d sg with
  | nil => simp only [List.foldl_nil, List.flatten_nil, prodOthers_nil, flips, Nat.mul_one, Bool.xor_false]
  | cons b bs ih =>
    simp only [List.foldl_cons, List.flatten_cons]
    rw [batch_exact indices i hb b (hbs b List.mem_cons_self)]
    simp only [Nat.mod_mul_mod]
    rw [ih (fun b' hb' => hbs b' (List.mem_cons_of_mem _ hb')), prodOthers_append, prodOthers_append, flips_append,
      Nat.mul_assoc, Nat.mul_assoc, Bool.xor_assoc]

/-- **the C loop computes the plain products**: for indices at most 255 (`MAX_IND`), `coeffParts` returns
    `Π_{j≠i} x_j mod r`, `Π_{j≠i} |x_j - x_i| mod r` and the parity of `#{j ≠ i : x_j < x_i}` -/
theorem coeffParts_spec (r : Nat) (hb : ∀ x ∈ indices, x ≤ 255) :
    coeffParts r indices i =
      (prodOthers i (node indices) (List.range indices.length) % r,
       prodOthers i (gap indices i) (List.range indices.length) % r, flips indices i (List.range indices.length)) := by
  unfold coeffParts
  have h := fold_spec indices i r hb (batches 8 (indices.length + 1) (List.range indices.length))
    (batches_len 8 _ _) 1 1 false
  rw [batches_flatten 8 (by norm_num) _ _ (by rw [List.length_range]; exact Nat.lt_succ_self _)] at h
  simpa only [Nat.one_mul, Bool.false_xor] using h

end Proofs.Limbs
