import Proofs.DkgShare

/-! Agreement between two *different* honest participants of Feldman-VSS-Qual (neither is the dealer).

A participant's complaint is the only broadcast it emits, and *when* it is emitted depends on the order in
which that participant received its private share and the dealer's vector. A direct lock-step comparison of two
participants is therefore circular (each one's input contains the other's output). The proof goes through a
**shadow observer** instead: the very same state machine (`Proofs.DkgCommute.step`), run by a fictitious
participant `Z` whose index is out of range, whose share is marked as received and always matches (the crypto
record `shadowOps` accepts every share for `Z`'s own index and is `O` for every other index). `Z` never emits,
never owns a table entry, and processes exactly the broadcasts a real participant `A` processes, in `A`'s own
order, plus `A`'s complaint at the very moment `A` emits it. `shadow_step` shows that the public part of `A`'s
state (verdict, vector, complaint table, timeouts) equals that of `Z` after every delivery. Two honest
participants `A` and `B` of one execution give two shadows that saw the same stream of broadcasts per sender and
round (reliable broadcast; an honest complaint lands in the round it was emitted), so by the order-independence
theorem of `Proofs.DkgRounds`, applied to `Z`, the two shadows — hence `A` and `B` — reach the same verdict. -/

namespace Proofs.DkgAgree
open Model Model.Dkg Proofs.DkgCommute

/-- the crypto record of the shadow observer: every share is accepted for index `zme`, nothing else changes -/
@[reducible] def shadowOps (O : Ops) (zme : Nat) : Ops :=
  { O with checkLog := fun v k x => if k = zme then true else O.checkLog v k x }

variable {O : Ops} {zme : Nat}

/-- the public part of a participant's state coincides with the shadow's -/
structure PubEq (a : St O) (z : St (shadowOps O zme)) : Prop where
  size : a.size = z.size
  threshold : a.threshold = z.threshold
  dealer : a.dealer = z.dealer
  disq : a.disqualified = z.disqualified
  vAR : a.vAReceived = z.vAReceived
  vA : a.vA = z.vA
  tbl : a.complaints = z.complaints
  st : a.sharesTimeout = z.sharesTimeout
  ct : a.complaintsTimeout = z.complaintsTimeout

/-- what makes `Z` a passive observer -/
structure ZInv (z : St (shadowOps O zme)) : Prop where
  me : z.me = zme
  xr : z.xReceived = true
  noz : ∀ kc ∈ z.complaints, kc.1 ≠ zme
  hsize : z.size ≤ zme
  hdealer : z.dealer < z.size
  hbyte : z.size ≤ 256

theorem PubEq.find {a : St O} {z : St (shadowOps O zme)} (h : PubEq a z) (k : Nat) : a.find k = z.find k := by
  unfold St.find; rw [h.tbl]

theorem PubEq.cc {a : St O} {z : St (shadowOps O zme)} (h : PubEq a z) (k : Nat) (hk : k ≠ zme) (c : Complaint) :
    a.checkComplaint k c = z.checkComplaint k c := by
  unfold St.checkComplaint
  rw [← h.vA]
  cases a.vA with
  | none => rfl
  | some v => simp [hk]

theorem PubEq.ccf {a : St O} {z : St (shadowOps O zme)} (h : PubEq a z) (k : Nat) (hk : k ≠ zme) :
    a.checkComplaint k = z.checkComplaint k := funext (h.cc k hk)

theorem pub_applyUpd {a : St O} {z : St (shadowOps O zme)} (h : PubEq a z) (k : Nat) (ua uz : Upd)
    (he : ua.entry = uz.entry) (hd : ua.disq = uz.disq) : PubEq (applyUpd a k ua) (applyUpd z k uz) := by
  refine ⟨by rw [applyUpd_size, applyUpd_size]; exact h.size, by rw [applyUpd_threshold, applyUpd_threshold]; exact h.threshold,
    by rw [applyUpd_dealer, applyUpd_dealer]; exact h.dealer, by rw [applyUpd_disq, applyUpd_disq, hd, h.disq],
    by rw [applyUpd_vAReceived, applyUpd_vAReceived]; exact h.vAR, by rw [applyUpd_vA, applyUpd_vA]; exact h.vA, ?_,
    by rw [applyUpd_sharesTimeout, applyUpd_sharesTimeout]; exact h.st,
    by rw [applyUpd_complaintsTimeout, applyUpd_complaintsTimeout]; exact h.ct⟩
  rw [applyUpd_complaints, applyUpd_complaints, he]
  cases uz.entry with
  | none => exact h.tbl
  | some c => show (k, c) :: a.complaints.filter _ = (k, c) :: z.complaints.filter _; rw [h.tbl]

theorem zinv_applyUpd {z : St (shadowOps O zme)} (h : ZInv z) (k : Nat) (hk : k ≠ zme) (u : Upd) :
    ZInv (applyUpd z k u) := by
  refine ⟨by rw [applyUpd_me]; exact h.me, by rw [applyUpd_xReceived]; exact h.xr, ?_, by rw [applyUpd_size]; exact h.hsize,
    by rw [applyUpd_dealer, applyUpd_size]; exact h.hdealer, by rw [applyUpd_size]; exact h.hbyte⟩
  rw [applyUpd_complaints]
  cases u.entry with
  | none => exact h.noz
  | some c =>
    intro kc hkc
    rcases List.mem_cons.1 hkc with h1 | h1
    · rw [h1]; exact hk
    · exact h.noz kc (List.mem_filter.1 h1).1

/-- the broadcast complaint of participant `k` against the dealer, as a delivery -/
def zCmpl (k d : Nat) : Dl := .bcast k (cmplMsg d)

theorem zstep_cmpl (z : St (shadowOps O zme)) (zi : ZInv z) (k : Nat) (hk : k < z.size) (hkd : k ≠ z.dealer)
    (hdq : z.disqualified = false) (hct : z.complaintsTimeout = false) :
    step z (zCmpl k z.dealer) = rcOk z k := by
  have hme : z.me ≠ z.dealer := by rw [zi.me]; have := zi.hdealer; have := zi.hsize; omega
  have hzk : z.me ≠ k := by rw [zi.me]; have := zi.hsize; omega
  show (FvssQ.bcastBody z k (tagComplaint :: [UInt8.ofNat z.dealer])).1 = rcOk z k
  rw [bcmpl_eq, if_neg hzk, if_neg (by rw [hdq]; exact Bool.false_ne_true), rc_eq z k _ hme hct,
    parseC_dealer z (by have := zi.hdealer; have := zi.hbyte; omega) zi.hdealer]
  show (if k = z.dealer then z else if z.dealer ≠ z.dealer then z else rcOk z k) = _
  rw [if_neg hkd, if_neg (fun h => h rfl)]

/-- the participant's own complaint and the same complaint received from somebody else: the same entry, the same
    verdict; only the share is the participant's own business -/
theorem bcU_rcU (fc : Option Complaint) (v : Bool) (chk : Complaint → Bool) :
    (bcU fc v chk).entry = (rcU fc v chk).entry ∧ (bcU fc v chk).disq = (rcU fc v chk).disq := by
  unfold bcU rcU
  cases fc with
  | none => exact ⟨rfl, rfl⟩
  | some c =>
    dsimp only
    by_cases hr : c.received = true
    · rw [if_pos hr, if_pos hr]; exact ⟨rfl, rfl⟩
    rw [if_neg hr, if_neg hr]
    by_cases ha : c.answerReceived = true
    · rw [if_pos ha]
      cases v
      · rw [if_neg Bool.false_ne_true, if_neg (fun h => Bool.false_ne_true h.1)]; exact ⟨rfl, rfl⟩
      · rw [if_pos rfl, if_pos (⟨rfl, ha⟩ : true = true ∧ c.answerReceived = true)]
        cases chk (recv c)
        · rw [if_neg Bool.false_ne_true]; exact ⟨rfl, rfl⟩
        · rw [if_pos rfl]; exact ⟨rfl, rfl⟩
    · rw [if_neg ha, if_neg (fun h => ha h.2)]; exact ⟨rfl, rfl⟩

/-- **the participant's own complaint is, publicly, the complaint the others receive**: building the complaint
    at `t` and delivering it to the shadow lead to the same public state -/
theorem pub_buildComplaint {t : St O} {z : St (shadowOps O zme)} (h : PubEq t z) (zi : ZInv z)
    (hdq : t.disqualified = false) (hvok : VecOK t) (hme : t.me < t.size) (hmd : t.me ≠ t.dealer)
    (hct : t.complaintsTimeout = false) :
    PubEq (FvssQ.buildComplaint t).1 (if ownRecv t then z else step z (zCmpl t.me t.dealer)) ∧
    ZInv (if ownRecv t then z else step z (zCmpl t.me t.dealer)) := by
  have hmz : t.me ≠ zme := by have := zi.hsize; rw [← h.size] at this; omega
  cases ho : ownRecv t
  · have hzd : z.disqualified = false := by rw [← h.disq]; exact hdq
    have hzc : z.complaintsTimeout = false := by rw [← h.ct]; exact hct
    have hv : (t.vAReceived && t.vA.isSome) = t.vAReceived := by
      cases hv : t.vAReceived
      · rfl
      · rw [hvok hv hdq]; rfl
    rw [if_neg Bool.false_ne_true, bc_upd, hv, h.dealer,
      zstep_cmpl z zi t.me (by rw [← h.size]; exact hme) (by rw [← h.dealer]; exact hmd) hzd hzc, rcOk_upd,
      ← h.find, ← h.vAR, ← h.ccf t.me hmz]
    exact ⟨pub_applyUpd h _ _ _ (bcU_rcU _ _ _).1 (bcU_rcU _ _ _).2, zinv_applyUpd zi _ hmz _⟩
  · rw [if_pos rfl]
    rcases bc_cases t with ⟨_, e⟩ | ⟨hf, _⟩
    · rw [e]; exact ⟨h, zi⟩
    · rw [ho] at hf; cases hf

theorem pub_congr {a a' : St O} {z z' : St (shadowOps O zme)} (h : PubEq a z)
    (a1 : a'.size = a.size) (a2 : a'.threshold = a.threshold) (a3 : a'.dealer = a.dealer)
    (z1 : z'.size = z.size) (z2 : z'.threshold = z.threshold) (z3 : z'.dealer = z.dealer)
    (h4 : a'.disqualified = z'.disqualified) (h5 : a'.vAReceived = z'.vAReceived) (h6 : a'.vA = z'.vA)
    (h7 : a'.complaints = z'.complaints) (h8 : a'.sharesTimeout = z'.sharesTimeout)
    (h9 : a'.complaintsTimeout = z'.complaintsTimeout) : PubEq a' z' :=
  ⟨by rw [a1, z1]; exact h.size, by rw [a2, z2]; exact h.threshold, by rw [a3, z3]; exact h.dealer, h4, h5, h6, h7, h8, h9⟩

theorem zinv_congr {z z' : St (shadowOps O zme)} (h : ZInv z) (h1 : z'.me = z.me) (h2 : z'.xReceived = z.xReceived)
    (h3 : z'.complaints = z.complaints) (h4 : z'.size = z.size) (h5 : z'.dealer = z.dealer) : ZInv z' :=
  ⟨by rw [h1]; exact h.me, by rw [h2]; exact h.xr, by rw [h3]; exact h.noz, by rw [h4]; exact h.hsize,
    by rw [h4, h5]; exact h.hdealer, by rw [h4]; exact h.hbyte⟩

/-- invariants of the real participant used by the simulation -/
structure AInv (a : St O) : Prop where
  inv : Inv a
  melt : a.me < a.size
  tmo : a.complaintsTimeout = true → a.sharesTimeout = true

/-- the deliveries the shadow sees for the complaint `a` may have emitted while moving to `a'` -/
def emitted (a a' : St O) : List Dl := if !ownRecv a && ownRecv a' then [zCmpl a.me a.dealer] else []

/-- a step of the real participant that ends in `buildComplaint` -/
theorem shadow_bc {a t : St O} {z' : St (shadowOps O zme)} (h : PubEq t z') (zi : ZInv z')
    (hdq : t.disqualified = false) (hvok : VecOK t) (hme : t.me < t.size) (hmd : t.me ≠ t.dealer)
    (hct : t.complaintsTimeout = false) (h1 : t.me = a.me) (h2 : t.dealer = a.dealer)
    (h3 : t.complaints = a.complaints) :
    PubEq (FvssQ.buildComplaint t).1 (runList z' (emitted a (FvssQ.buildComplaint t).1)) ∧
    ZInv (runList z' (emitted a (FvssQ.buildComplaint t).1)) := by
  have hb := pub_buildComplaint h zi hdq hvok hme hmd hct
  have ho : ownRecv t = ownRecv a := ownRecv_congr h1 h3
  unfold emitted
  rw [ownRecv_bc, ← ho, ← h1, ← h2]
  by_cases hr : ownRecv t = true
  · rw [if_pos hr] at hb
    simp only [hr, Bool.not_true, Bool.false_and, Bool.false_eq_true, if_false]
    exact hb
  · rw [if_neg hr] at hb
    have hr' : ownRecv t = false := by simpa using hr
    simp only [hr', Bool.not_false, Bool.true_and, if_true]
    exact hb

theorem classifyB_pub {a : St O} {z : St (shadowOps O zme)} (h : PubEq a z) (o : Nat) (m : Bytes)
    (hao : a.me ≠ o) (hzo : z.me ≠ o) : classifyB z o m = classifyB a o m := by
  unfold classifyB parseC parseA
  rw [if_neg hao, if_neg hzo, ← h.dealer, ← h.size, ← h.ct]

theorem classifyB_vec (s : St O) (o : Nat) (m : Bytes) (d : Bytes) (h : classifyB s o m = .vec d) : o = s.dealer :=
  classifyB_cases (P := fun K => K = .vec d → o = s.dealer) s o m (fun h => nomatch h) (fun _ h => nomatch h)
    (fun hod _ => hod) (fun _ _ _ _ _ _ h => nomatch h) (fun _ _ _ _ h => nomatch h) h

theorem parseA_lt (s : St O) (data : Bytes) (j : Nat) (sc : Option Nat) (hp : parseA s data = some (j, sc)) :
    j < s.size := by
  unfold parseA at hp
  split at hp
  · cases hp
  · split at hp
    · cases hp
    · cases hp; omega

/-- entry and verdict of an answer do not depend on who receives it -/
theorem raU_pub (fc : Option Complaint) (v : Bool) (chk : Complaint → Bool) (d1 m1 d2 m2 : Bool) (sc : Option Nat) :
    (raU fc v chk d1 m1 sc).entry = (raU fc v chk d2 m2 sc).entry ∧
    (raU fc v chk d1 m1 sc).disq = (raU fc v chk d2 m2 sc).disq := by
  unfold raU
  cases fc with
  | none => cases sc <;> exact ⟨rfl, rfl⟩
  | some c =>
    dsimp only
    cases c.answerReceived <;> cases c.received <;> cases sc <;> exact ⟨rfl, rfl⟩

/-- the public part of a delivery: what the shadow is given when the real participant processes `e` -/
def pubPart (a : St O) : Dl → List Dl
  | .bcast o m => if o = a.me then [] else [.bcast o m]
  | .priv _ _ => []

/-- the shadow's deliveries for one delivery at the real participant: the broadcast itself, then the participant's
    complaint if this delivery made the participant emit it -/
def zEvents (a : St O) (e : Dl) : List Dl := pubPart a e ++ emitted a (step a e)

theorem pubPart_bcast (a : St O) (o : Nat) (m : Bytes) : pubPart a (.bcast o m) = if o = a.me then [] else [.bcast o m] := rfl
theorem pubPart_priv (a : St O) (o : Nat) (m : Bytes) : pubPart a (.priv o m) = [] := rfl

theorem emitted_nil {a a' : St O} (h : ownRecv a' = ownRecv a) : emitted a a' = [] := by
  unfold emitted
  rw [h]
  cases ownRecv a <;> rfl

theorem shadow_quiet {a a' : St O} {z' : St (shadowOps O zme)} (ho : ownRecv a' = ownRecv a) (p : PubEq a' z')
    (zi' : ZInv z') : PubEq a' (runList z' (emitted a a')) ∧ ZInv (runList z' (emitted a a')) := by
  rw [emitted_nil ho]; exact ⟨p, zi'⟩

theorem any_congr_mem {α : Type} (l : List α) (p q : α → Bool) (h : ∀ x ∈ l, p x = q x) : l.any p = l.any q := by
  induction l with
  | nil => rfl
  | cons x t ih =>
    rw [List.any_cons, List.any_cons, h x (List.mem_cons_self), ih (fun y hy => h y (List.mem_cons_of_mem _ hy))]

theorem anyBad_pub {a : St O} {z : St (shadowOps O zme)} (h : PubEq a z) (zi : ZInv z) (v : O.Vec) :
    anyBad (setVec a v) = anyBad (setVec z v) := by
  unfold anyBad
  rw [setVec_complaints, setVec_complaints, h.tbl]
  apply any_congr_mem
  intro kc hkc
  unfold entryBad
  rw [cc_setVec, cc_setVec]
  show _ = (_ && !(if kc.1 = zme then true else O.checkLog v kc.1 kc.2.answer))
  rw [if_neg (zi.noz kc hkc)]

theorem AInv.ct_of_st {a : St O} (ai : AInv a) (hst : a.sharesTimeout = false) : a.complaintsTimeout = false := by
  cases hc : a.complaintsTimeout
  · rfl
  · rw [ai.tmo hc] at hst; cases hst

/-- the dealer's share is private, but it may make the participant complain -/
theorem shadow_share {a : St O} {z : St (shadowOps O zme)} (ai : AInv a) (zi : ZInv z) (h : PubEq a z)
    (hd : a.disqualified = false) (m : Bytes) :
    PubEq (FvssQ.receiveShare a a.dealer m).1 (runList z (emitted a (FvssQ.receiveShare a a.dealer m).1)) ∧
    ZInv (runList z (emitted a (FvssQ.receiveShare a a.dealer m).1)) := by
  rw [rs_total a a.dealer rfl m]
  cases hg : (a.sharesTimeout || a.xReceived)
  swap
  · exact shadow_quiet rfl h zi
  have hct := ai.ct_of_st (Bool.or_eq_false_iff.1 hg).1
  rw [if_neg Bool.false_ne_true]
  cases parseShare O m with
  | none =>
    exact shadow_bc (a := a) (t := markX a) (pub_congr h rfl rfl rfl rfl rfl rfl h.disq h.vAR h.vA h.tbl h.st h.ct) zi
      hd ai.inv.vecok ai.melt ai.inv.hme hct rfl rfl rfl
  | some x =>
    have hp : PubEq (setX a x) z := pub_congr h rfl rfl rfl rfl rfl rfl h.disq h.vAR h.vA h.tbl h.st h.ct
    have quiet := shadow_quiet (a := a) (a' := setX a x) (ownRecv_congr rfl rfl) hp zi
    show PubEq (rsOk a x) (runList z (emitted a (rsOk a x))) ∧ ZInv (runList z (emitted a (rsOk a x)))
    unfold rsOk
    split
    · split
      · exact shadow_bc (a := a) (t := setX a x) hp zi hd ai.inv.vecok ai.melt ai.inv.hme hct rfl rfl rfl
      · exact quiet
    · exact quiet

/-- the dealer's vector: the shadow stores it too; its own share always matches, so it never complains itself -/
theorem shadow_vec {a : St O} {z : St (shadowOps O zme)} (ai : AInv a) (zi : ZInv z) (h : PubEq a z)
    (hd : a.disqualified = false) (d : Bytes) :
    PubEq (FvssQ.receiveVerifVector a a.dealer d).1
      (runList (FvssQ.receiveVerifVector z z.dealer d).1 (emitted a (FvssQ.receiveVerifVector a a.dealer d).1)) ∧
    ZInv (runList (FvssQ.receiveVerifVector z z.dealer d).1 (emitted a (FvssQ.receiveVerifVector a a.dealer d).1)) := by
  have hpv : parseVec z d = parseVec a d := by unfold parseVec; rw [← h.threshold, ← h.size]
  rw [rv_total a a.dealer rfl d, rv_total z z.dealer rfl d, ← h.st, ← h.vAR, hpv]
  cases hg : (a.sharesTimeout || a.vAReceived)
  swap
  · exact shadow_quiet rfl h zi
  have hct := ai.ct_of_st (Bool.or_eq_false_iff.1 hg).1
  rw [if_neg Bool.false_ne_true, if_neg Bool.false_ne_true]
  cases parseVec a d with
  | none =>
    exact shadow_quiet (a := a) (a' := vecBad a) (ownRecv_congr rfl rfl)
      (pub_congr h rfl rfl rfl rfl rfl rfl rfl rfl h.vA h.tbl h.st h.ct) (zinv_congr zi rfl rfl rfl rfl rfl)
  | some v =>
    have hp : PubEq (setVec a v) (setVec z v) := pub_congr h rfl rfl rfl rfl rfl rfl h.disq rfl rfl h.tbl h.st h.ct
    have zi' : ZInv (setVec z v) := zinv_congr zi rfl rfl rfl rfl rfl
    have quiet := shadow_quiet (a := a) (a' := setVec a v) (ownRecv_congr rfl rfl) hp zi'
    have hz : rvOk z v = if anyBad (setVec a v) then setDisq (setVec z v) true else setVec z v := by
      have hzv : (setVec z v).verifyShare = true := by rw [vs_setVec]; exact if_pos zi.me
      unfold rvOk
      rw [← anyBad_pub h zi v, if_pos zi.xr, hzv]
      rfl
    show PubEq (rvOk a v) (runList (rvOk z v) (emitted a (rvOk a v))) ∧ ZInv (runList (rvOk z v) (emitted a (rvOk a v)))
    rw [hz]
    unfold rvOk
    split
    · exact shadow_quiet (a := a) (a' := setDisq (setVec a v) true) (ownRecv_congr rfl rfl)
        (pub_congr h rfl rfl rfl rfl rfl rfl rfl rfl rfl h.tbl h.st h.ct) (zinv_congr zi rfl rfl rfl rfl rfl)
    · split
      · split
        · exact shadow_bc (a := a) (t := setVec a v) hp zi' hd (fun _ _ => rfl) ai.melt ai.inv.hme hct rfl rfl rfl
        · exact quiet
      · exact quiet

/-- **simulation step**: after any delivery at the real participant, its public state equals that of the shadow,
    which was given the same broadcast and, if this delivery made the participant emit its complaint, that
    complaint -/
theorem shadow_step {a : St O} {z : St (shadowOps O zme)} (ai : AInv a) (zi : ZInv z) (h : PubEq a z) (e : Dl)
    (he : e.sender < a.size) :
    PubEq (step a e) (runList z (zEvents a e)) ∧ ZInv (runList z (zEvents a e)) := by
  have hzme : z.me ≠ z.dealer := by rw [zi.me]; have := zi.hdealer; have := zi.hsize; omega
  have hlt : ∀ k, k < a.size → k ≠ zme := fun k hk => by have := zi.hsize; rw [← h.size] at this; omega
  unfold zEvents
  rw [runList_append]
  cases hd : a.disqualified
  swap
  · -- a disqualified instance ignores every message, and so does the shadow
    have hzd : z.disqualified = true := by rw [← h.disq]; exact hd
    have hz : runList z (pubPart a e) = z := by
      cases e with
      | priv o m => rfl
      | bcast o m =>
        rw [pubPart_bcast]
        split
        · rfl
        · rw [runList_single]; exact step_disq z _ hzd
    rw [step_disq a e hd, hz]
    exact shadow_quiet rfl h zi
  have hzd : z.disqualified = false := by rw [← h.disq]; exact hd
  rw [step_classify a e ai.inv.hme hd]
  cases e with
  | priv o m =>
    rw [pubPart_priv, runList_nil]
    show PubEq (interp a (if a.me = o then .noop else if o = a.dealer then .share m else .noop)) (runList z (emitted a
      (interp a (if a.me = o then .noop else if o = a.dealer then .share m else .noop)))) ∧ ZInv (runList z (emitted a
      (interp a (if a.me = o then .noop else if o = a.dealer then .share m else .noop))))
    split
    · exact shadow_quiet rfl h zi
    · split
      · exact shadow_share ai zi h hd m
      · exact shadow_quiet rfl h zi
  | bcast o m =>
    rw [pubPart_bcast]
    by_cases ho : o = a.me
    · -- the participant's own broadcast comes back: ignored, and the shadow has it already
      have hk : classify a (.bcast o m) = .noop := by
        show classifyB a o m = .noop
        unfold classifyB
        exact if_pos ho.symm
      rw [if_pos ho, hk]
      exact shadow_quiet rfl h zi
    have hao : a.me ≠ o := fun x => ho x.symm
    have hoz : o ≠ zme := hlt o he
    have hzo : z.me ≠ o := by rw [zi.me]; exact fun x => hoz x.symm
    rw [if_neg ho, runList_single, step_classify z _ hzme hzd]
    show PubEq (interp a (classifyB a o m)) (runList (interp z (classifyB z o m)) (emitted a (interp a (classifyB a o m)))) ∧
      ZInv (runList (interp z (classifyB z o m)) (emitted a (interp a (classifyB a o m))))
    rw [classifyB_pub h o m hao hzo]
    refine classifyB_cases (P := fun K => PubEq (interp a K) (runList (interp z K) (emitted a (interp a K))) ∧
      ZInv (runList (interp z K) (emitted a (interp a K)))) a o m ?_ ?_ ?_ ?_ ?_
    · exact shadow_quiet rfl h zi
    · exact fun _ => shadow_quiet (a := a) (a' := setDisq a true) (ownRecv_congr rfl rfl)
        (pub_congr h rfl rfl rfl rfl rfl rfl rfl h.vAR h.vA h.tbl h.st h.ct) (zinv_congr zi rfl rfl rfl rfl rfl)
    · exact fun _ => shadow_vec ai zi h hd _
    · intro _ _ _ _ _ _
      show PubEq (rcOk a o) (runList (rcOk z o) (emitted a (rcOk a o))) ∧ ZInv (runList (rcOk z o) (emitted a (rcOk a o)))
      rw [rcOk_upd a, rcOk_upd z, ← h.find, ← h.vAR, ← h.ccf _ hoz]
      exact shadow_quiet (ownRecv_applyUpd_other a _ _ hao) (pub_applyUpd h _ _ _ rfl rfl) (zinv_applyUpd zi _ hoz _)
    · intro _ j sc hp
      have hjz : j ≠ zme := hlt j (parseA_lt a _ j sc hp)
      show PubEq (raOk a j sc) (runList (raOk z j sc) (emitted a (raOk a j sc))) ∧
        ZInv (runList (raOk z j sc) (emitted a (raOk a j sc)))
      rw [raOk_upd a, raOk_upd z, ← h.find, ← h.vAR, ← h.ccf _ hjz]
      obtain ⟨e1, e2⟩ := raU_pub (a.find j) a.vAReceived (a.checkComplaint j) a.disqualified (decide (j = a.me))
        z.disqualified (decide (j = z.me)) sc
      exact shadow_quiet (ownRecv_raOk a j _ _ _ _ sc) (pub_applyUpd h _ _ _ e1 e2) (zinv_applyUpd zi _ hjz _)

theorem ainv_step {a : St O} (ai : AInv a) (e : Dl) : AInv (step a e) := by
  have c := step_cfg_any a e
  refine ⟨inv_step a ai.inv e, by rw [c.me, c.size]; exact ai.melt, ?_⟩
  rw [c.sharesTimeout, c.complaintsTimeout]; exact ai.tmo

theorem ainv_tstep {a : St O} (ai : AInv a) : AInv (tstep a) := by
  exact ⟨inv_tstep a ai.inv, by rw [tstep_me, tstep_size]; exact ai.melt, fun _ => tstep_st a⟩

/-- **simulation of the timeout**: the shadow takes the same timeout and is then given the complaint the
    participant emits at the timeout (it lands in the next round) -/
theorem shadow_tstep {a : St O} {z : St (shadowOps O zme)} (ai : AInv a) (zi : ZInv z) (h : PubEq a z) :
    PubEq (tstep a) (runList (tstep z) (emitted a (tstep a))) ∧ ZInv (runList (tstep z) (emitted a (tstep a))) := by
  -- the guards of the timeout are public, and the shadow never lacks its share
  rw [tstep_eq a, tstep_eq z, ← h.disq, ← h.st, ← h.vAR, ← h.tbl, ← h.threshold, zi.xr,
    if_neg (show ¬ (!true) = true from Bool.false_ne_true)]
  have flag : ∀ (a' : St O) (z' : St (shadowOps O zme)), a'.me = a.me → a'.complaints = a.complaints → PubEq a' z' →
      ZInv z' → PubEq a' (runList z' (emitted a a')) ∧ ZInv (runList z' (emitted a a')) :=
    fun a' z' e1 e2 => shadow_quiet (ownRecv_congr e1 e2)
  have pst : PubEq (stFlag a) (stFlag z) := pub_congr h rfl rfl rfl rfl rfl rfl h.disq h.vAR h.vA h.tbl rfl h.ct
  have pct : PubEq (ctFlag a) (ctFlag z) := pub_congr h rfl rfl rfl rfl rfl rfl h.disq h.vAR h.vA h.tbl h.st rfl
  have zst : ZInv (stFlag z) := zinv_congr zi rfl rfl rfl rfl rfl
  have zct : ZInv (ctFlag z) := zinv_congr zi rfl rfl rfl rfl rfl
  by_cases hd : a.disqualified = true
  · rw [if_pos hd, if_pos hd]
    by_cases hst : (!a.sharesTimeout) = true
    · rw [if_pos hst, if_pos hst]; exact flag _ _ rfl rfl pst zst
    · rw [if_neg hst, if_neg hst]; exact flag _ _ rfl rfl pct zct
  rw [if_neg hd, if_neg hd]
  by_cases hst : (!a.sharesTimeout) = true
  · rw [if_pos hst, if_pos hst]
    by_cases hv : (!a.vAReceived) = true
    · rw [if_pos hv, if_pos hv]
      exact flag _ _ rfl rfl (pub_congr h rfl rfl rfl rfl rfl rfl rfl h.vAR h.vA h.tbl rfl h.ct)
        (zinv_congr zi rfl rfl rfl rfl rfl)
    rw [if_neg hv, if_neg hv]
    by_cases hx : (!a.xReceived) = true
    · rw [if_pos hx]
      exact shadow_bc (a := a) (t := stFlag a) pst zst (Bool.eq_false_iff.2 hd) ai.inv.vecok ai.melt ai.inv.hme
        (ai.ct_of_st ((Bool.not_eq_true' _).mp hst)) rfl rfl rfl
    · rw [if_neg hx]; exact flag _ _ rfl rfl pst zst
  rw [if_neg hst, if_neg hst]
  by_cases hl : a.complaints.length > a.threshold
  · rw [if_pos hl, if_pos hl]
    exact flag _ _ rfl rfl (pub_congr h rfl rfl rfl rfl rfl rfl rfl h.vAR h.vA h.tbl h.st rfl)
      (zinv_congr zi rfl rfl rfl rfl rfl)
  · rw [if_neg hl, if_neg hl]; exact flag _ _ rfl rfl pct zct

/-- the shadow's schedule for a round of the real participant -/
def zSched (a : St O) : List Dl → List Dl
  | [] => []
  | e :: l => zEvents a e ++ zSched (step a e) l

theorem shadow_run {a : St O} {z : St (shadowOps O zme)} (ai : AInv a) (zi : ZInv z) (h : PubEq a z) (l : List Dl)
    (hl : ∀ e ∈ l, e.sender < a.size) :
    PubEq (runList a l) (runList z (zSched a l)) ∧ ZInv (runList z (zSched a l)) := by
  induction l generalizing a z with
  | nil => exact ⟨h, zi⟩
  | cons e t ih =>
    show PubEq (runList (step a e) t) (runList z (zEvents a e ++ zSched (step a e) t)) ∧
      ZInv (runList z (zEvents a e ++ zSched (step a e) t))
    rw [runList_append]
    obtain ⟨p1, z1⟩ := shadow_step ai zi h e (hl e (List.mem_cons_self))
    exact ih (ainv_step ai e) z1 p1 (fun x hx => by rw [(step_cfg_any a e).size]; exact hl x (List.mem_cons_of_mem _ hx))

/-- the shadow's three rounds for the three rounds of the real participant: a complaint emitted at a timeout is
    delivered at the start of the next round -/
def zR1 (a : St O) (r1 : List Dl) : List Dl := zSched a r1
def zR2 (a : St O) (r1 r2 : List Dl) : List Dl :=
  emitted (runList a r1) (tstep (runList a r1)) ++ zSched (tstep (runList a r1)) r2
def zR3 (a : St O) (r1 r2 r3 : List Dl) : List Dl :=
  emitted (runList (tstep (runList a r1)) r2) (tstep (runList (tstep (runList a r1)) r2)) ++
    zSched (tstep (runList (tstep (runList a r1)) r2)) r3

theorem ainv_runList {a : St O} (ai : AInv a) (l : List Dl) : AInv (runList a l) :=
  runList_keeps (I := AInv) (fun _ e ai => ainv_step ai e) a ai l

theorem shadow_round {a : St O} {z : St (shadowOps O zme)} (ai : AInv a) (zi : ZInv z) (h : PubEq a z) (l : List Dl)
    (hl : ∀ e ∈ l, e.sender < a.size) :
    PubEq (tstep (runList a l)) (runList (tstep (runList z (zSched a l))) (emitted (runList a l) (tstep (runList a l)))) ∧
    ZInv (runList (tstep (runList z (zSched a l))) (emitted (runList a l) (tstep (runList a l)))) ∧
    AInv (tstep (runList a l)) ∧ (tstep (runList a l)).size = a.size := by
  obtain ⟨p, zi'⟩ := shadow_run ai zi h l hl
  obtain ⟨p', zi''⟩ := shadow_tstep (ainv_runList ai l) zi' p
  exact ⟨p', zi'', ainv_tstep (ainv_runList ai l), (tstep_size _).trans (runList_cfg_any a l).size⟩

theorem shadow_final {a : St O} {z : St (shadowOps O zme)} (ai : AInv a) (zi : ZInv z) (h : PubEq a z)
    (r1 r2 r3 : List Dl) (h1 : ∀ e ∈ r1, e.sender < a.size) (h2 : ∀ e ∈ r2, e.sender < a.size)
    (h3 : ∀ e ∈ r3, e.sender < a.size) :
    PubEq (final a r1 r2 r3) (final z (zR1 a r1) (zR2 a r1 r2) (zR3 a r1 r2 r3)) := by
  unfold final zR1 zR2 zR3
  obtain ⟨p1, z1, a1, s1⟩ := shadow_round ai zi h r1 h1
  rw [runList_append]
  obtain ⟨p2, z2, a2, s2⟩ := shadow_round a1 z1 p1 r2 (by rw [s1]; exact h2)
  rw [runList_append]
  exact (shadow_run a2 z2 p2 r3 (by rw [s2, s1]; exact h3)).1

/-- the callbacks and messages a delivery produces -/
def stepOuts (s : St O) : Dl → List Out
  | .bcast o m => (FvssQ.bcastBody s o m).2
  | .priv o m => (FvssQ.privBody s o m).2

/-- the broadcast messages among the outputs -/
def bcasts : List Out → List Bytes
  | [] => []
  | .bcast m :: l => m :: bcasts l
  | _ :: l => bcasts l

@[simp] theorem bcasts_nil : bcasts [] = [] := rfl
@[simp] theorem bcasts_flag (i : Nat) (l : List Out) : bcasts (.flag i :: l) = bcasts l := rfl
@[simp] theorem bcasts_disq (i : Nat) (l : List Out) : bcasts (.disq i :: l) = bcasts l := rfl
@[simp] theorem bcasts_send (i : Nat) (m : Bytes) (l : List Out) : bcasts (.send i m :: l) = bcasts l := rfl
@[simp] theorem bcasts_bcast (m : Bytes) (l : List Out) : bcasts (.bcast m :: l) = m :: bcasts l := rfl
theorem bcasts_append (l1 l2 : List Out) : bcasts (l1 ++ l2) = bcasts l1 ++ bcasts l2 := by
  induction l1 with
  | nil => rfl
  | cons x t ih => cases x <;> simp [ih]

/-- the broadcasts among the outputs `r.2` of a handler run from `s` are exactly the complaint, if and only if
    the handler set the `received` flag of the participant's own entry -/
def Good (s : St O) (r : St O × List Out) : Prop :=
  bcasts r.2 = if ownRecv s then [] else if ownRecv r.1 then [cmplMsg s.dealer] else []

/-- nothing but the complaint is ever broadcast, except by the dealer answering somebody else -/
theorem Emits.good {s : St O} {o : Nat} {r : St O × List Out} (hme : s.me ≠ s.dealer ∨ s.me = o) (h : Emits s o r) :
    Good s r := by
  obtain ⟨tl, e, ht⟩ := h
  have htl : ∀ l : List Out, (∀ x ∈ l, Tail s o x) → bcasts l = [] := by
    intro l
    induction l with
    | nil => exact fun _ => rfl
    | cons x t ih =>
      intro ht
      have ih' := ih (fun y hy => ht y (List.mem_cons_of_mem _ hy))
      rcases ht x (List.mem_cons_self ..) with rfl | rfl | rfl | ⟨hd, ho, _⟩
      · exact ih'
      · exact ih'
      · exact ih'
      · exact (hme.elim (fun h => h hd) (fun h => ho h)).elim
  unfold Good
  rw [e, bcasts_append, htl tl ht, List.append_nil]
  cases ownRecv s <;> cases ownRecv r.1 <;> rfl

/-- **the participant broadcasts its complaint exactly when its own table entry gets the `received` flag**:
    tie between the deliveries given to the shadow (`emitted`) and the real outputs of the handlers -/
theorem step_good (a : St O) (hme : a.me ≠ a.dealer) (e : Dl) : Good a (step a e, stepOuts a e) := by
  cases e with
  | priv o m => exact (priv_emits a o m).good (Or.inl hme)
  | bcast o m => exact (bcast_emits a o m).good (Or.inl hme)

theorem tstep_good (a : St O) : Good a (FvssQ.timeoutBody a) :=
  (timeout_emits a).good (Classical.em (a.me = a.dealer)).symm

theorem emitted_of_good (a a' : St O) (outs : List Out) (h : Good a (a', outs)) :
    emitted a a' = (bcasts outs).map (Dl.bcast a.me) := by
  unfold Good at h
  unfold emitted zCmpl
  rw [h]
  cases ownRecv a <;> cases ownRecv a' <;> rfl

/-- everything the participant broadcasts while the deliveries of a round are handled, in order -/
def roundOuts (a : St O) : List Dl → List Bytes
  | [] => []
  | e :: l => bcasts (stepOuts a e) ++ roundOuts (step a e) l

/-- what the participant broadcasts at a timeout -/
def timeoutOuts (a : St O) : List Bytes := bcasts (FvssQ.timeoutBody a).2

theorem stream_append (l1 l2 : List Dl) (c : Nat × Bool) : stream (l1 ++ l2) c = stream l1 c ++ stream l2 c := by
  unfold stream; rw [List.filter_append]

theorem stream_map_bcast (k : Nat) (ms : List Bytes) (c : Nat × Bool) :
    stream (ms.map (Dl.bcast k)) c = if c = (k, false) then ms.map (Dl.bcast k) else [] := by
  unfold stream
  induction ms with
  | nil => simp
  | cons m t ih =>
    rw [List.map_cons, List.filter_cons, ih]
    by_cases hc : c = (k, false)
    · subst hc; simp [Dl.chan, Dl.sender, Dl.isPriv]
    · have : ((Dl.bcast k m).chan == c) = false := by
        simp only [Dl.chan, Dl.sender, Dl.isPriv, beq_eq_false_iff_ne, ne_eq]
        exact fun h => hc h.symm
      simp [this, hc]

theorem stream_pubPart (a : St O) (e : Dl) (c : Nat × Bool) :
    stream (pubPart a e) c = if c.2 = true ∨ c.1 = a.me then [] else stream [e] c := by
  obtain ⟨o, p⟩ := c
  cases e with
  | priv o' m =>
    rw [pubPart_priv]
    unfold stream
    cases p
    · simp [Dl.chan, Dl.isPriv]
    · simp
  | bcast o' m =>
    rw [pubPart_bcast]
    unfold stream
    by_cases h1 : o' = a.me
    · rw [if_pos h1]
      cases p
      · by_cases h2 : o = a.me
        · simp [h2]
        · have : ¬ (o' = o) := by rw [h1]; exact fun h => h2 h.symm
          simp [h2, Dl.chan, Dl.sender, Dl.isPriv, this]
      · simp
    · rw [if_neg h1]
      cases p
      · by_cases h2 : o = a.me
        · subst h2
          simp [Dl.chan, Dl.sender, Dl.isPriv, h1]
        · simp [h2]
      · simp [Dl.chan, Dl.isPriv]

theorem stream_zSched (a : St O) (hme : a.me ≠ a.dealer) (l : List Dl) (c : Nat × Bool) :
    stream (zSched a l) c =
      if c.2 = true then [] else if c.1 = a.me then (roundOuts a l).map (Dl.bcast a.me) else stream l c := by
  induction l generalizing a with
  | nil =>
    show stream [] c = _
    unfold stream roundOuts
    simp
  | cons e t ih =>
    have hs := step_cfg_any a e
    have ih' := ih (step a e) (by rw [hs.me, hs.dealer]; exact hme)
    show stream (zEvents a e ++ zSched (step a e) t) c = _
    unfold zEvents
    rw [stream_append, stream_append, ih', stream_pubPart, emitted_of_good a _ _ (step_good a hme e), stream_map_bcast, hs.me]
    obtain ⟨o, p⟩ := c
    show (if p = true ∨ o = a.me then [] else stream [e] (o, p)) ++
      (if (o, p) = (a.me, false) then (bcasts (stepOuts a e)).map (Dl.bcast a.me) else []) ++
      (if p = true then [] else if o = a.me then (roundOuts (step a e) t).map (Dl.bcast a.me) else stream t (o, p)) =
      if p = true then [] else if o = a.me then (roundOuts a (e :: t)).map (Dl.bcast a.me) else stream (e :: t) (o, p)
    cases p
    · by_cases h2 : o = a.me
      · subst h2
        simp [roundOuts]
      · have : ¬ ((o, false) = (a.me, false)) := by
          intro h; exact h2 (Prod.mk.inj h).1
        simp only [Bool.false_eq_true, false_or, h2, if_false, this, List.append_nil]
        rw [← stream_append]; rfl
    · have : ¬ ((o, true) = (a.me, false)) := by
        intro h; cases (Prod.mk.inj h).2
      simp [this]

/-- what the participant broadcasts in each of the three rounds (a broadcast made at a timeout belongs to the
    next round) -/
def bR1 (a : St O) (r1 : List Dl) : List Bytes := roundOuts a r1
def bR2 (a : St O) (r1 r2 : List Dl) : List Bytes :=
  timeoutOuts (runList a r1) ++ roundOuts (tstep (runList a r1)) r2
def bR3 (a : St O) (r1 r2 r3 : List Dl) : List Bytes :=
  timeoutOuts (runList (tstep (runList a r1)) r2) ++ roundOuts (tstep (runList (tstep (runList a r1)) r2)) r3

theorem stream_emitted_tstep (a : St O) (c : Nat × Bool) :
    stream (emitted a (tstep a)) c = if c = (a.me, false) then (timeoutOuts a).map (Dl.bcast a.me) else [] := by
  have h : Good a (tstep a, (FvssQ.timeoutBody a).2) := tstep_good a
  rw [emitted_of_good a _ _ h, stream_map_bcast]
  rfl

theorem stream_round (a0 a : St O) (hme : a.me ≠ a.dealer) (hm : a.me = a0.me) (pre : List Bytes) (l : List Dl) (c : Nat × Bool)
    (E : List Dl) (hE : stream E c = if c = (a0.me, false) then pre.map (Dl.bcast a0.me) else []) :
    stream (E ++ zSched a l) c =
      if c.2 = true then [] else if c.1 = a0.me then (pre ++ roundOuts a l).map (Dl.bcast a0.me) else stream l c := by
  rw [stream_append, hE, stream_zSched a hme l c, hm]
  obtain ⟨o, p⟩ := c
  cases p
  · by_cases h2 : o = a0.me
    · subst h2; simp
    · have : ¬ ((o, false) = (a0.me, false)) := fun h => h2 (Prod.mk.inj h).1
      simp [h2, this]
  · have : ¬ ((o, true) = (a0.me, false)) := fun h => by cases (Prod.mk.inj h).2
    simp [this]

theorem stream_zR (a : St O) (ai : AInv a) (r1 r2 r3 : List Dl) (c : Nat × Bool) :
    (stream (zR1 a r1) c = if c.2 = true then [] else if c.1 = a.me then (bR1 a r1).map (Dl.bcast a.me) else stream r1 c) ∧
    (stream (zR2 a r1 r2) c = if c.2 = true then [] else if c.1 = a.me then (bR2 a r1 r2).map (Dl.bcast a.me) else stream r2 c) ∧
    (stream (zR3 a r1 r2 r3) c = if c.2 = true then [] else if c.1 = a.me then (bR3 a r1 r2 r3).map (Dl.bcast a.me) else stream r3 c) := by
  have a1 := ainv_runList ai r1
  have a1' := ainv_tstep a1
  have a2 := ainv_runList a1' r2
  have a2' := ainv_tstep a2
  have m1 : (runList a r1).me = a.me := (runList_cfg_any a r1).me
  have m1' : (tstep (runList a r1)).me = a.me := (tstep_me _).trans m1
  have m2 : (runList (tstep (runList a r1)) r2).me = a.me := (runList_cfg_any _ r2).me.trans m1'
  have m2' : (tstep (runList (tstep (runList a r1)) r2)).me = a.me := (tstep_me _).trans m2
  refine ⟨stream_zSched a ai.inv.hme r1 c, ?_, ?_⟩
  · unfold zR2 bR2
    apply stream_round a _ a1'.inv.hme m1' (timeoutOuts (runList a r1)) r2 c
    rw [stream_emitted_tstep, m1]
  · unfold zR3 bR3
    apply stream_round a _ a2'.inv.hme m2' (timeoutOuts (runList (tstep (runList a r1)) r2)) r3 c
    rw [stream_emitted_tstep, m2]

/-- **reliable broadcast and round synchrony for one round, seen by two honest participants `ma` and `mb`**:
    every broadcast of a third participant (the dealer included) reaches both in this round, in the sender's order;
    what `ma` broadcast in this round (`outA`) is what `mb` received from `ma` in this round, and vice versa.
    Nothing is assumed about private messages, nor about the order in which anything is delivered. -/
structure Net (ma mb : Nat) (ra rb : List Dl) (outA outB : List Bytes) : Prop where
  third : ∀ o, o ≠ ma → o ≠ mb → stream ra (o, false) = stream rb (o, false)
  a_to_b : stream rb (ma, false) = outA.map (Dl.bcast ma)
  b_to_a : stream ra (mb, false) = outB.map (Dl.bcast mb)

theorem streams_of_net {ma mb : Nat} (hab : ma ≠ mb) {ra rb : List Dl} {outA outB : List Bytes}
    (N : Net ma mb ra rb outA outB) (ZA ZB : List Dl)
    (hA : ∀ c : Nat × Bool, stream ZA c = if c.2 = true then [] else if c.1 = ma then outA.map (Dl.bcast ma) else stream ra c)
    (hB : ∀ c : Nat × Bool, stream ZB c = if c.2 = true then [] else if c.1 = mb then outB.map (Dl.bcast mb) else stream rb c) :
    ∀ c, stream ZA c = stream ZB c := by
  intro c
  rw [hA c, hB c]
  obtain ⟨o, p⟩ := c
  cases p
  · simp only [Bool.false_eq_true, if_false]
    by_cases h1 : o = ma
    · subst h1
      rw [if_pos rfl, if_neg hab, N.a_to_b]
    · rw [if_neg h1]
      by_cases h2 : o = mb
      · subst h2
        rw [if_pos rfl, N.b_to_a]
      · rw [if_neg h2]; exact N.third o h1 h2
  · simp

theorem final_relP (s : St O) (inv : Inv s) (r1 r1' r2 r2' r3 r3' : List Dl)
    (h1 : ∀ c, stream r1 c = stream r1' c) (h2 : ∀ c, stream r2 c = stream r2' c)
    (h3 : ∀ c, stream r3 c = stream r3' c) : RelP (final s r1 r2 r3) (final s r1' r2' r3') :=
  rounds_independent (I := Inv) (fun _ i => i.nodup) (fun s l i => inv_runList s i l) (fun s i => inv_tstep s i)
    (fun _ _ l h ia ib => relP_runList h ia ib l)
    (fun s l l' i h => round_independent s i l l' (swaps_of_streams l l' h)) s inv r1 r1' r2 r2' r3 r3' h1 h2 h3

theorem pview_pubEq {a : St O} {z : St (shadowOps O zme)} (h : PubEq a z) : pview a = pview z := by
  rw [pview_eq, pview_eq]
  unfold unanswered
  rw [← h.disq, ← h.tbl, ← h.vA]

/-- `a` and `b` start with the public state of one observer `z` (`pA`, `pB`); by `Net` their shadows are given the same
    stream per sender in each round, so the order-independence theorem at `z` relates the shadows' final states. -/
theorem pview_agree {a b : St O} {z : St (shadowOps O zme)} (aiA : AInv a) (aiB : AInv b) (zi : ZInv z) (iz : Inv z)
    (pA : PubEq a z) (pB : PubEq b z) (hab : a.me ≠ b.me) (ra1 ra2 ra3 rb1 rb2 rb3 : List Dl)
    (ba1 : ∀ e ∈ ra1, e.sender < a.size) (ba2 : ∀ e ∈ ra2, e.sender < a.size) (ba3 : ∀ e ∈ ra3, e.sender < a.size)
    (bb1 : ∀ e ∈ rb1, e.sender < b.size) (bb2 : ∀ e ∈ rb2, e.sender < b.size) (bb3 : ∀ e ∈ rb3, e.sender < b.size)
    (n1 : Net a.me b.me ra1 rb1 (bR1 a ra1) (bR1 b rb1)) (n2 : Net a.me b.me ra2 rb2 (bR2 a ra1 ra2) (bR2 b rb1 rb2))
    (n3 : Net a.me b.me ra3 rb3 (bR3 a ra1 ra2 ra3) (bR3 b rb1 rb2 rb3)) :
    pview (final a ra1 ra2 ra3) = pview (final b rb1 rb2 rb3) := by
  have sA := stream_zR a aiA ra1 ra2 ra3
  have sB := stream_zR b aiB rb1 rb2 rb3
  rw [pview_pubEq (shadow_final aiA zi pA ra1 ra2 ra3 ba1 ba2 ba3),
    pview_pubEq (shadow_final aiB zi pB rb1 rb2 rb3 bb1 bb2 bb3)]
  exact pview_relP (final_relP z iz _ _ _ _ _ _
    (streams_of_net hab n1 _ _ (fun c => (sA c).1) (fun c => (sB c).1))
    (streams_of_net hab n2 _ _ (fun c => (sA c).2.1) (fun c => (sB c).2.1))
    (streams_of_net hab n3 _ _ (fun c => (sA c).2.2) (fun c => (sB c).2.2)))

/-- a participant right after `Start` (not the dealer) -/
def fresh (O : Ops) (size threshold me dealer : Nat) : St O :=
  { size := size, threshold := threshold, me := me, dealer := dealer, running := true }

/-- the shadow observer right after `Start` -/
def freshZ (O : Ops) (size threshold zme dealer : Nat) : St (shadowOps O zme) :=
  { size := size, threshold := threshold, me := zme, dealer := dealer, running := true, xReceived := true }

theorem inv_fresh (size threshold me dealer : Nat) (h : me ≠ dealer) : Inv (fresh O size threshold me dealer) :=
  inv_empty _ h rfl rfl

theorem ainv_fresh {size threshold me dealer : Nat} (h : me ≠ dealer) (hlt : me < size) :
    AInv (fresh O size threshold me dealer) := ⟨inv_fresh size threshold me dealer h, hlt, fun h => nomatch h⟩

/-- the observer of a fresh instance takes the first index out of range -/
theorem pubEq_fresh (size threshold me dealer : Nat) :
    PubEq (fresh O size threshold me dealer) (freshZ O size threshold size dealer) :=
  ⟨rfl, rfl, rfl, rfl, rfl, rfl, rfl, rfl, rfl⟩

theorem zinv_freshZ {size dealer : Nat} (threshold : Nat) (hd : dealer < size) (hs : size ≤ 256) :
    ZInv (freshZ O size threshold size dealer) ∧ Inv (freshZ O size threshold size dealer) :=
  ⟨⟨rfl, rfl, fun _ h => (nomatch h), Nat.le_refl _, hd, hs⟩, inv_empty _ (Nat.ne_of_gt hd) rfl rfl⟩

/-- **C07, agreement**: in one execution of Feldman-VSS-Qual, two honest participants that are not the dealer end
    with the same public result — both fail, or both hold the same group public key and the same vector of public
    key shares — whatever the dealer and the other participants send (privately or by broadcast, well formed or
    not, in any round), and in whatever order each of the two receives the messages of a round. The only
    assumptions are those of the property: reliable broadcast with round synchrony (`Net`, once per round), and that
    the two participants themselves run the protocol (their broadcasts are the outputs of the state machine). -/
theorem agreement (size threshold dealer ma mb : Nat) (hd : dealer < size) (hs : size ≤ 256)
    (hma : ma < size) (hmb : mb < size) (hmad : ma ≠ dealer) (hmbd : mb ≠ dealer) (hab : ma ≠ mb)
    (ra1 ra2 ra3 rb1 rb2 rb3 : List Dl)
    (ba1 : ∀ e ∈ ra1, e.sender < size) (ba2 : ∀ e ∈ ra2, e.sender < size) (ba3 : ∀ e ∈ ra3, e.sender < size)
    (bb1 : ∀ e ∈ rb1, e.sender < size) (bb2 : ∀ e ∈ rb2, e.sender < size) (bb3 : ∀ e ∈ rb3, e.sender < size)
    (n1 : Net ma mb ra1 rb1 (bR1 (fresh O size threshold ma dealer) ra1) (bR1 (fresh O size threshold mb dealer) rb1))
    (n2 : Net ma mb ra2 rb2 (bR2 (fresh O size threshold ma dealer) ra1 ra2) (bR2 (fresh O size threshold mb dealer) rb1 rb2))
    (n3 : Net ma mb ra3 rb3 (bR3 (fresh O size threshold ma dealer) ra1 ra2 ra3)
      (bR3 (fresh O size threshold mb dealer) rb1 rb2 rb3)) :
    pubRes (final (fresh O size threshold ma dealer) ra1 ra2 ra3) =
      pubRes (final (fresh O size threshold mb dealer) rb1 rb2 rb3) := by
  rw [pubRes_pview, pubRes_pview]
  exact congrArg keysOf <| pview_agree (ainv_fresh hmad hma) (ainv_fresh hmbd hmb) (zinv_freshZ threshold hd hs).1
    (zinv_freshZ threshold hd hs).2 (pubEq_fresh size threshold ma dealer) (pubEq_fresh size threshold mb dealer) hab
    ra1 ra2 ra3 rb1 rb2 rb3 ba1 ba2 ba3 bb1 bb2 bb3 n1 n2 n3

end Proofs.DkgAgree
