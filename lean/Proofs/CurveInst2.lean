import Proofs.CurveGroup2
import Proofs.E2Codec
import Proofs.CurveInst
import Model.Bls

/-! `Proofs.CurveGroup2` for BLS12-381 `E2` (`y² = x³ + 4(1 + u)` over `F_p²`). -/

namespace Proofs.CurveInst2
open Model Model.Curve Proofs.CurveGroup2

instance fact_bls_p : Fact (Nat.Prime Bls.p) := Proofs.CurveInst.fact_bls_p

/-- `-1` is not a square modulo `p` (`p ≡ 3 mod 4`): `F_p[u]/(u² + 1)` is a field -/
instance fact_bls_nonsquare : Fact (∀ r : ZMod Bls.p, r ^ 2 ≠ (-1 : ZMod Bls.p) + 0 * r) := ⟨
  fun r h => Proofs.E2Codec.neg_one_not_sq r (by rw [h, zero_mul, add_zero])⟩

theorem W_Δ (p : ℕ) [Fact p.Prime] [Fact (∀ r : ZMod p, r ^ 2 ≠ (-1 : ZMod p) + 0 * r)] (a b : ℕ × ℕ) :
    (W p a b).Δ = -(16 * (4 * (a : K p) ^ 3 + 27 * (b : K p) ^ 2)) := by
  unfold WeierstrassCurve.Δ WeierstrassCurve.b₂ WeierstrassCurve.b₄ WeierstrassCurve.b₆ WeierstrassCurve.b₈
  simp only [W]
  ring

theorem bls_E2 : Bls.E2 = C Bls.p (0, 0) (4, 4) := rfl

theorem natCast_ne_zero (n : ℕ) (h0 : 0 < n) (hn : n < Bls.p) : ((n : ℕ) : K Bls.p) ≠ 0 := by
  intro h
  have := congrArg QuadraticAlgebra.re h
  rw [QuadraticAlgebra.re_natCast, QuadraticAlgebra.re_zero, ZMod.natCast_eq_zero_iff] at this
  exact absurd (Nat.le_of_dvd h0 this) (by omega)

theorem bls2_Δ : (W Bls.p (0, 0) (4, 4)).Δ ≠ 0 := by
  rw [W_Δ, c_zero]
  have hb : ((((4, 4) : ℕ × ℕ)) : K Bls.p) ≠ 0 := by
    intro h
    have h' : φ Bls.p (4, 4) = 0 := h
    have := congrArg QuadraticAlgebra.re h'
    unfold φ at this
    simp only [QuadraticAlgebra.re_zero] at this
    have h4 : ((4 : ℕ) : ZMod Bls.p) = 0 := this
    rw [ZMod.natCast_eq_zero_iff] at h4
    exact absurd (Nat.le_of_dvd (by decide) h4) (by decide +kernel)
  have h432 : (16 * 27 : K Bls.p) ≠ 0 := by
    have := natCast_ne_zero 432 (by decide) (by decide +kernel)
    intro h
    apply this
    rw [← h]; push_cast; norm_num
  intro h
  have : (16 * 27 : K Bls.p) * (((4, 4) : ℕ × ℕ) : K Bls.p) ^ 2 = 0 := by linear_combination -h
  rcases mul_eq_zero.1 this with h1 | h1
  · exact h432 h1
  · exact hb (pow_eq_zero_iff (by decide) |>.1 h1)

theorem bls_g2_valid : Valid Bls.p (0, 0) (4, 4) Bls.g2 := by
  refine ⟨⟨by decide +kernel, by decide +kernel⟩, ⟨by decide +kernel, by decide +kernel⟩, by decide +kernel⟩

end Proofs.CurveInst2
