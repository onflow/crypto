import Proofs.AbsBls
import Mathlib.Algebra.BigOperators.Group.List.Basic
import Mathlib.Algebra.BigOperators.Group.List.Lemmas
import Mathlib.Algebra.Module.Basic
import Mathlib.Algebra.Module.BigOperators

/-! Aggregation (bls_multisig.go) and SPoCK (spock.go, bls_core.c) over the abstract pairing setting. -/

variable {r : ℕ} [Fact r.Prime] {P : PairingGroups r}

/-- `PublicKey()` of a scalar -/
def pubOf (P : PairingGroups r) (sk : ZMod r) : P.G2 := sk • P.g2

/-- `AggregateBLSPrivateKeys` -/
def aggSK (sks : List (ZMod r)) : Except Err (ZMod r) :=
  if sks = [] then .error .emptyList else .ok sks.sum

/-- `AggregateBLSPublicKeys` -/
def aggPK (pks : List P.G2) : Except Err P.G2 :=
  if pks = [] then .error .emptyList else .ok pks.sum

/-- `RemoveBLSPublicKeys` -/
def removePK (agg : P.G2) (rm : List P.G2) : P.G2 := agg - rm.sum

/-- decode every signature (no subgroup check): `E1_sum_vector_byte` reads with `E1_read_bytes` -/
def decodeAll (C : Codec P) : List Bytes → Option (List P.E1)
  | [] => some []
  | s :: t =>
    if s.length ≠ 48 then none else
    match C.decode s, decodeAll C t with
    | some x, some xs => some (x :: xs)
    | _, _ => none

/-- `AggregateBLSSignatures` -/
def aggSig (C : Codec P) (sigs : List Bytes) : Except Err Bytes :=
  if sigs = [] then .error .emptyList
  else match decodeAll C sigs with
    | none => .error .invalidSignature
    | some xs => .ok (C.encode xs.sum)

theorem perm_eq_nil {α : Type} {l l' : List α} (h : l.Perm l') : l = [] ↔ l' = [] := by
  rw [← List.length_eq_zero_iff, h.length_eq, List.length_eq_zero_iff]

theorem aggSK_of_ne_nil {sks : List (ZMod r)} (h : sks ≠ []) : aggSK sks = .ok sks.sum := if_neg h

theorem aggPK_of_ne_nil {pks : List P.G2} (h : pks ≠ []) : aggPK pks = .ok pks.sum := if_neg h

theorem decodeAll_cons_encode (C : Codec P) (x : P.E1) (t : List Bytes) :
    decodeAll C (C.encode x :: t) = (decodeAll C t).map (x :: ·) := by
  rw [decodeAll, if_neg (not_not.2 (C.length_encode x)), C.dec_enc]
  cases decodeAll C t <;> rfl

theorem decodeAll_encode (C : Codec P) (xs : List P.E1) :
    decodeAll C (xs.map C.encode) = some xs := by
  induction xs with
  | nil => rfl
  | cons x t ih => rw [List.map_cons, decodeAll_cons_encode, ih]; rfl

theorem aggSig_encode (C : Codec P) {xs : List P.E1} (h : xs ≠ []) :
    aggSig C (xs.map C.encode) = .ok (C.encode xs.sum) := by
  rw [aggSig, if_neg (mt List.map_eq_nil_iff.1 h), decodeAll_encode]

/-- `SPOCKVerify` on BLS keys (`bls_spock_verify`): both proofs parsed and subgroup-checked, pairing equality -/
def spockVerify (C : Codec P) (pk1 : P.G2) (p1 : Bytes) (pk2 : P.G2) (p2 : Bytes) : Bool :=
  if p1.length ≠ 48 ∨ p2.length ≠ 48 then false
  else if pk1 = 0 ∨ pk2 = 0 then false
  else match C.decode p1 with
    | none => false
    | some x1 => match P.toG1 x1 with
      | none => false
      | some s1 => match C.decode p2 with
        | none => false
        | some x2 => match P.toG1 x2 with
          | none => false
          | some s2 => decide (P.e s1 (-pk2) + P.e s2 pk1 = 0)
