import Mathlib.Data.Finset.Card
import Mathlib.Data.Finset.Image
import Mathlib.Data.Nat.ModEq
import Mathlib.Tactic.Ring
import Model.Prg
import Proofs.Bytes

/-! Counting lemmas behind "UintN is exactly uniform in the PRG's bits" (C15). -/

open Finset

theorem card_mod_eq (m c v : ℕ) (hm : 0 < m) (hv : v < m) :
    ((range (m * c)).filter (fun x => x % m = v)).card = c := by
  have himg : (range (m * c)).filter (fun x => x % m = v) = (range c).image (fun q => m * q + v) := by
    ext x
    simp only [mem_filter, mem_range, mem_image]
    constructor
    · rintro ⟨hx, hmod⟩
      exact ⟨x / m, Nat.div_lt_of_lt_mul hx, hmod ▸ Nat.div_add_mod x m⟩
    · rintro ⟨q, hq, rfl⟩
      constructor
      · calc m * q + v < m * q + m := by omega
          _ = m * (q + 1) := by ring
          _ ≤ m * c := Nat.mul_le_mul_left m (by omega)
      · rw [Nat.mul_add_mod]; exact Nat.mod_eq_of_lt hv
  rw [himg, card_image_of_injective _ fun a b hab => Nat.eq_of_mul_eq_mul_left hm (Nat.add_right_cancel hab),
    card_range]

namespace Model.Prg

theorem pow256_split {size k : ℕ} (hk : k ≤ 8 * size) : 256 ^ size = 2 ^ k * 2 ^ (8 * size - k) := by
  rw [← pow_add, Nat.add_sub_cancel' hk, pow_mul]
  rfl

/-- the value of one attempt of `UintN` as a function of the number read from the source -/
def attempt (k : Nat) (x : Nat) : Nat := x % 2 ^ k

/-- **one attempt is exactly uniform**: over the `256^size` equally likely values of the `size` source bytes,
    every candidate `v < 2^k` (`k ≤ 8·size` the bit length of `n-1`) is produced the same number of times,
    `2^(8·size - k)` -/
theorem attempt_uniform (size k v : ℕ) (hk : k ≤ 8 * size) (hv : v < 2 ^ k) :
    ((range (256 ^ size)).filter (fun x => attempt k x = v)).card = 2 ^ (8 * size - k) := by
  rw [pow256_split hk]
  exact card_mod_eq (2 ^ k) _ v (Nat.two_pow_pos k) hv

/-- the bytes read are in bijection with the numbers below `256^size` (little-endian) -/
theorem bytes_numbers_bijection (size : ℕ) :
    (∀ b : Bytes, b.length = size → leNat b < 256 ^ size ∧ natLE size (leNat b) = b) ∧
    (∀ x < 256 ^ size, (natLE size x).length = size ∧ leNat (natLE size x) = x) := by
  constructor
  · intro b hb
    subst hb
    exact ⟨leNat_lt b, natLE_leNat b⟩
  · intro x hx
    exact ⟨natLE_length size x, by rw [leNat_natLE]; exact Nat.mod_eq_of_lt hx⟩

theorem maskOf_spec (max : Nat) : ∀ (fuel j : Nat), max < 2 ^ (j + fuel) → (∀ k', max < 2 ^ k' → j ≤ k') →
    ∃ k, maskOf fuel max (2 ^ j - 1) = 2 ^ k - 1 ∧ max < 2 ^ k ∧ ∀ k', max < 2 ^ k' → k ≤ k' := by
  intro fuel
  induction fuel with
  | zero => intro j h hj; exact ⟨j, rfl, h, hj⟩
  | succ f ih =>
    intro j h hj
    rw [maskOf, Nat.and_two_pow_sub_one_eq_mod]
    by_cases hlt : max < 2 ^ j
    · rw [if_pos (Nat.mod_eq_of_lt hlt)]
      exact ⟨j, rfl, hlt, hj⟩
    · have hm : (2 ^ j - 1) * 2 + 1 = 2 ^ (j + 1) - 1 := by
        have := Nat.two_pow_pos j
        rw [pow_succ]; omega
      have hne : max % 2 ^ j ≠ max := fun he => hlt (he ▸ Nat.mod_lt max (Nat.two_pow_pos j))
      rw [if_neg hne, hm]
      -- `2^j ≤ max`: a bound `max < 2^k'` needs `j < k'`
      exact ih (j + 1) (by rwa [Nat.add_right_comm, Nat.add_assoc]) fun k' hk' =>
        Nat.lt_of_not_le fun hle => hlt (hk'.trans_le (Nat.pow_le_pow_right (by norm_num) hle))

theorem byteSize_spec : ∀ (fuel m : Nat), m < 256 ^ fuel → m < 256 ^ (byteSize fuel m) := by
  intro fuel
  induction fuel with
  | zero => intro m h; exact h
  | succ f ih =>
    intro m h
    rw [byteSize]
    split
    · next h0 => subst h0; exact Nat.pow_pos (by norm_num)
    · rw [pow_succ] at h
      rw [Nat.add_comm 1, pow_succ]
      exact (Nat.div_lt_iff_lt_mul (by norm_num)).1 (ih _ ((Nat.div_lt_iff_lt_mul (by norm_num)).2 h))

/-- **the stale bytes of the 8-byte scratch buffer never influence the value**: with `size` fresh bytes and a
    mask of `k ≤ 8·size` bits, the candidate is the fresh bytes' number modulo `2^k` -/
theorem candidate_eq (bytes stale : Bytes) (size k : Nat) (hl : bytes.length = size) (hk : k ≤ 8 * size) :
    leNat (bytes ++ stale) &&& (2 ^ k - 1) = attempt k (leNat bytes) := by
  rw [Nat.and_two_pow_sub_one_eq_mod, leNat_append, hl]
  rw [attempt, pow256_split hk, Nat.mul_assoc, Nat.add_mul_mod_self_left]

/-- `65` and `9` are the fuels `Model.Prg.uintN` gives the two loops: enough for a 64-bit `max` -/
theorem uintN_params (max : Nat) (h64 : max < 2 ^ 64) :
    ∃ k, maskOf 65 max 0 = 2 ^ k - 1 ∧ max < 2 ^ k ∧ k ≤ 8 * byteSize 9 max := by
  obtain ⟨k, h1, h2, h3⟩ := maskOf_spec max 65 0 (h64.trans (by decide)) fun _ _ => Nat.zero_le _
  refine ⟨k, h1, h2, h3 _ ?_⟩
  rw [pow_mul]
  exact byteSize_spec 9 max (h64.trans (by decide))

end Model.Prg
