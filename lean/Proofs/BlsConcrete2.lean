import Proofs.BlsConcrete
import Proofs.BlsLaws

/-! The `G2` side of `Proofs/BlsConcrete.lean`: the public-key codec (`Bls.writeE2` / `Bls.decodePublicKey`) on the
`r`-torsion group, and the facts the instantiated theorems need about it. -/

namespace Proofs.BlsConcrete
open Model Model.Curve WeierstrassCurve.Affine

section bls2
open Proofs.CurveGroup2 Proofs.CurveInst2

local notation "r" => Model.Bls.r

/-- `PublicKey.Encode` on the group: the compressed encoding of the canonical representative -/
def encodePk (x : E2P) : Model.Bytes := Bls.writeE2 (ofPoint2 Bls.p (0, 0) (4, 4) x)

theorem encodePk_smul_g2 (sk : ZMod r) :
    encodePk ((sk • g2 : G2) : E2P) = Bls.writeE2 (Bls.publicKeyOf sk.val) := by
  unfold encodePk Bls.publicKeyOf
  rw [torsion_smul, mul_g2 _ (Bls.val_bits sk)]
  rfl

theorem decodePk_encodePk (x : G2) :
    Bls.decodePublicKey (encodePk x.1) = some (ofPoint2 Bls.p (0, 0) (4, 4) x.1) := by
  have hv := valid_ofPoint Bls.p (0, 0) (4, 4) x.1
  have hg : Bls.inG2 (ofPoint2 Bls.p (0, 0) (4, 4) x.1) = true := by
    rw [inG2_iff_torsion _ hv, toPoint_ofPoint]
    exact (mem_torsion x.1).1 x.2
  unfold encodePk Bls.decodePublicKey
  rw [if_neg (not_not.2 (Proofs.BlsLaws.writeE2_length _)), Proofs.E2Codec.e2_roundtrip _ ((valid_iff_codec _).2 hv)]
  simp only []
  rw [if_pos hg]

theorem encodePk_injective (x y : G2) (h : encodePk x.1 = encodePk y.1) : x = y := by
  have hx := decodePk_encodePk x
  have hy := decodePk_encodePk y
  rw [h, hy] at hx
  have := Option.some.inj hx
  apply Subtype.ext
  rw [← toPoint_ofPoint Bls.p (0, 0) (4, 4) x.1, ← this, toPoint_ofPoint]

end bls2

end Proofs.BlsConcrete
