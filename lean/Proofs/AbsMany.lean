import Proofs.AbsAgg

/-! `VerifyBLSSignatureManyMessages` (bls_multisig.go) and its two C back ends
(`bls_verifyPerDistinctMessage`, `bls_verifyPerDistinctKey`) over the abstract pairing setting.

Go's map iteration order, the way equal points in different coordinates fall into different map
entries, and the comparator choosing the back end are *parameters*: a grouping is any list of groups
whose flattening is a permutation of the (hash image, key) entries. `VerifyBLSSignatureOneMessage`
(`verifyOneCore`) is at the end. -/

variable {r : ℕ} [Fact r.Prime] {P : PairingGroups r}

def readG1 (C : Codec P) (sig : Bytes) : Option P.G1 :=
  match C.decode sig with
  | none => none
  | some x => P.toG1 x

theorem readG1_some_iff (C : Codec P) (sig : Bytes) (s : P.G1) :
    readG1 C sig = some s ↔ sig = C.encode (P.ι s) := by
  rw [← C.decode_toG1_iff]
  unfold readG1
  cases C.decode sig <;> simp

theorem readG1_encode (C : Codec P) (s : P.G1) : readG1 C (C.encode (P.ι s)) = some s :=
  (readG1_some_iff C _ s).2 rfl

def pairingSum (entries : List (P.G1 × P.G2)) : P.GT := (entries.map fun x => P.e x.1 x.2).sum

/-- entries of a grouping by message (the back end computes one pairing `e(h, Σ pks)` per group: `sum_byMsg`) -/
def flattenByMsg (groups : List (P.G1 × List P.G2)) : List (P.G1 × P.G2) :=
  groups.flatMap fun g => g.2.map fun pk => (g.1, pk)

/-- entries of a grouping by key (one pairing `e(Σ hs, pk)` per group: `sum_byKey`) -/
def flattenByKey (groups : List (P.G2 × List P.G1)) : List (P.G1 × P.G2) :=
  groups.flatMap fun g => g.2.map fun h => (h, g.1)

theorem PairingGroups.e_list_sum_left (l : List P.G1) (q : P.G2) : P.e l.sum q = (l.map fun a => P.e a q).sum :=
  map_list_sum (P.e.flip q) l

theorem sum_byMsg (groups : List (P.G1 × List P.G2)) :
    (groups.map fun g => P.e g.1 g.2.sum).sum = pairingSum (flattenByMsg groups) := by
  simp only [pairingSum, flattenByMsg, List.flatMap_def, List.map_flatten, List.sum_flatten, List.map_map,
    map_list_sum, Function.comp_def]

theorem sum_byKey (groups : List (P.G2 × List P.G1)) :
    (groups.map fun g => P.e g.2.sum g.1).sum = pairingSum (flattenByKey groups) := by
  simp only [pairingSum, flattenByKey, List.flatMap_def, List.map_flatten, List.sum_flatten, List.map_map,
    P.e_list_sum_left, Function.comp_def]

theorem pairingSum_perm {l l' : List (P.G1 × P.G2)} (h : l.Perm l') : pairingSum l = pairingSum l' :=
  (h.map _).sum_eq

/-- control flow after the Go-level guards: identity keys, parsing, one multi-pairing on the chosen grouping -/
def verifyManyCore (C : Codec P) (entries : List (P.G1 × P.G2)) (sig : Bytes) (byMsg : Bool)
    (gm : List (P.G1 × List P.G2)) (gk : List (P.G2 × List P.G1)) : Bool :=
  if sig.length ≠ 48 then false
  else if entries.any (fun x => decide (x.2 = 0)) then false
  else match readG1 C sig with
    | none => false
    | some s =>
      if byMsg then decide (P.e s (-P.g2) + (gm.map fun g => P.e g.1 g.2.sum).sum = 0)
      else decide (P.e s (-P.g2) + (gk.map fun g => P.e g.2.sum g.1).sum = 0)

/-- **the verdict is the pairing-product definition, for every grouping, order and back end** -/
theorem verifyManyCore_spec (C : Codec P) (entries : List (P.G1 × P.G2)) (sig : Bytes) (byMsg : Bool)
    (gm : List (P.G1 × List P.G2)) (gk : List (P.G2 × List P.G1))
    (hgm : (flattenByMsg gm).Perm entries) (hgk : (flattenByKey gk).Perm entries) :
    verifyManyCore C entries sig byMsg gm gk = true ↔
      (∀ x ∈ entries, x.2 ≠ 0) ∧ ∃ s : P.G1, sig = C.encode (P.ι s) ∧ P.e s P.g2 = pairingSum entries := by
  unfold verifyManyCore
  rw [sum_byMsg, sum_byKey, pairingSum_perm hgm, pairingSum_perm hgk]
  simp only [ite_self, Bool.if_false_left, Bool.and_eq_true, Bool.not_eq_true', decide_eq_false_iff_not, not_not,
    List.any_eq_true, decide_eq_true_eq, not_exists, not_and, ← readG1_some_iff]
  constructor
  · rintro ⟨-, hid, hm⟩
    split at hm; · cases hm
    next s hs => exact ⟨hid, s, hs, (P.e_neg_add_eq_zero s _ _).1 (of_decide_eq_true hm)⟩
  · rintro ⟨hid, s, hs, he⟩
    refine ⟨?_, hid, ?_⟩
    · rw [(readG1_some_iff C sig s).1 hs, C.length_encode]
    · rw [hs]; exact decide_eq_true ((P.e_neg_add_eq_zero s _ _).2 he)

theorem pairingSum_scalars (es : List (ZMod r × P.G1)) :
    pairingSum (es.map fun x => (x.2, x.1 • P.g2)) = P.e ((es.map fun x => x.1 • x.2).sum) P.g2 := by
  simp only [pairingSum, P.e_list_sum_left, List.map_map, Function.comp_def, P.e_smul_g2]

/-- `VerifyBLSSignatureOneMessage`: aggregate the keys, then `Verify` -/
def verifyOneCore (C : Codec P) (pks : List P.G2) (sig : Bytes) (h : P.G1) : Except Err Bool :=
  match aggPK pks with
  | .error e => .error e
  | .ok pk => .ok (verifyCore C pk sig h)
