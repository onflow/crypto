import Proofs.FpLemmas
import Proofs.CurveModel

/-! The curve arithmetic of the executable model over `F_p` (`Model.Curve` over `Fp.ops p`: affine addition, the
Jacobian formulas, scalar multiplication, sums) is the group law of the elliptic curve `y² = x³ + a x + b` over `ZMod p`
as defined in Mathlib (`WeierstrassCurve.Affine.Point`): `Fp.ops p` represents `ZMod p` by naturals (`fpModel`), and the
statements are those of `Proofs/CurveModel.lean` for it. -/

namespace Proofs.CurveGroup
open Model Model.Curve WeierstrassCurve.Affine Proofs.Fp

variable (p : ℕ) [hp : Fact p.Prime]

def C (a b : ℕ) : Params ℕ := { f := Fp.ops p, a := a, b := b }

def W (a b : ℕ) : WeierstrassCurve.Affine (ZMod p) := ⟨0, 0, 0, (a : ZMod p), (b : ZMod p)⟩

section field

theorem c_one : (((1 % p : ℕ)) : ZMod p) = 1 := by rw [ZMod.natCast_mod]; simp

def fpModel : CurveField.FieldModel ℕ (ZMod p) where
  f := Fp.ops p
  canon x := x < p
  φ := Nat.cast
  φ_zero := Nat.cast_zero
  φ_one := c_one p
  φ_add := c_add p
  φ_sub := c_sub p
  φ_mul := c_mul p
  canon_zero := hp.out.pos
  canon_one := Nat.mod_lt _ hp.out.pos
  canon_add := lt_add p
  canon_sub := lt_sub p
  canon_mul := lt_mul p
  φ_inj := fun hx hy h => (cast_inj p hx hy).1 h
  beq_iff := fun _ _ => beq_iff_eq

end field

section curve

variable (a b : ℕ)

/- `Valid`, `toPoint` and `JValid` are written out for naturals and `ZMod p` because the theorems about the model's
curves are stated with them; `valid_eq`, `toPoint_eq`, `jvalid_eq` identify them with those of `fpModel p` (after a
case split on the point: a `match` on a variable does not unfold against another). -/

def Valid : Aff ℕ → Prop
  | none => True
  | some (x, y) => x < p ∧ y < p ∧ onCurve (C p a b) (some (x, y)) = true

theorem negY_eq (x y : ZMod p) : (W p a b).negY x y = -y := CurveField.negY_eq _ _ x y

theorem onCurve_iff {x y : ℕ} (hx : x < p) (hy : y < p) :
    onCurve (C p a b) (some (x, y)) = true ↔ (W p a b).Equation (x : ZMod p) (y : ZMod p) :=
  (fpModel p).onCurve_iff a b x y

open Classical in
/-- infinity for anything that is not a nonsingular point -/
noncomputable def toPoint : Aff ℕ → (W p a b).Point
  | none => 0
  | some (x, y) => if h : (W p a b).Nonsingular (x : ZMod p) (y : ZMod p) then .some _ _ h else 0

theorem toPoint_some {x y : ℕ} (h : (W p a b).Nonsingular (x : ZMod p) (y : ZMod p)) :
    toPoint p a b (some (x, y)) = .some _ _ h := by
  unfold toPoint; exact dif_pos h

theorem some_congr {x y x' y' : ZMod p} (h : (W p a b).Nonsingular x y) (hx : x = x') (hy : y = y')
    (h' : (W p a b).Nonsingular x' y') : (Point.some x y h : (W p a b).Point) = Point.some x' y' h' :=
  CurveField.some_congr h hx hy h'

theorem valid_eq : Valid p a b = (fpModel p).Valid a b := by
  funext P
  rcases P with _ | ⟨x, y⟩ <;> rfl

theorem toPoint_eq : toPoint p a b = (fpModel p).toPoint a b := by
  funext P
  rcases P with _ | ⟨x, y⟩ <;> rfl

variable (hΔ : (W p a b).Δ ≠ 0) (h2 : 2 < p) (hb : p < 2 ^ 800)
include hΔ h2 hb

theorem addAff_eq (P Q : Aff ℕ) (hP : Valid p a b P) (hQ : Valid p a b Q) :
    Valid p a b (addAff (C p a b) P Q) ∧
      toPoint p a b (addAff (C p a b) P Q) = toPoint p a b P + toPoint p a b Q := by
  rw [valid_eq] at hP hQ ⊢
  rw [toPoint_eq]
  exact (fpModel p).addAff_eq a b (c_inv p h2 hb) hΔ P Q hP hQ

end curve

section jacobian

variable (a b : ℕ)

def JValid (J : Jac ℕ) : Prop := J.x < p ∧ J.y < p ∧ J.z < p ∧ Valid p a b (fromJac (C p a b) J)

theorem jvalid_eq : JValid p a b = (fpModel p).JValid a b := by
  funext J
  unfold JValid
  rw [valid_eq]
  rfl

variable (h2 : 2 < p) (hb : p < 2 ^ 800)
include h2 hb

theorem dblJac_eq (J : Jac ℕ) (hJ : JValid p a b J) :
    (dblJac (C p a b) J).x < p ∧ (dblJac (C p a b) J).y < p ∧ (dblJac (C p a b) J).z < p ∧
    fromJac (C p a b) (dblJac (C p a b) J) = addAff (C p a b) (fromJac (C p a b) J) (fromJac (C p a b) J) :=
  have c := (fpModel p).canon_dblJac a b J
  ⟨c.1, c.2.1, c.2.2,
    (fpModel p).fromJac_dblJac a b (c_inv p h2 hb) (two_ne_zero_of_lt p h2) ⟨hJ.1, hJ.2.1, hJ.2.2.1⟩⟩

theorem addJac_eq (P Q : Jac ℕ) (hP : JValid p a b P) (hQ : JValid p a b Q) :
    (addJac (C p a b) P Q).x < p ∧ (addJac (C p a b) P Q).y < p ∧ (addJac (C p a b) P Q).z < p ∧
    fromJac (C p a b) (addJac (C p a b) P Q) = addAff (C p a b) (fromJac (C p a b) P) (fromJac (C p a b) Q) := by
  rw [jvalid_eq] at hP hQ
  have c := (fpModel p).canon_addJac a b hP.canonJac hQ.canonJac
  exact ⟨c.1, c.2.1, c.2.2, (fpModel p).fromJac_addJac a b (c_inv p h2 hb) (two_ne_zero_of_lt p h2) hP hQ⟩

end jacobian

section group

variable (a b : ℕ) (hΔ : (W p a b).Δ ≠ 0) (h2 : 2 < p) (hb : p < 2 ^ 800)
include hΔ h2 hb

theorem mulJacAux_eq : ∀ (fuel k : ℕ) (base acc : Jac ℕ), k < 2 ^ fuel → JValid p a b base → JValid p a b acc →
    JValid p a b (mulJacAux (C p a b) fuel k base acc) ∧
      toPoint p a b (fromJac (C p a b) (mulJacAux (C p a b) fuel k base acc)) =
        toPoint p a b (fromJac (C p a b) acc) + k • toPoint p a b (fromJac (C p a b) base) := by
  rw [jvalid_eq, toPoint_eq]
  exact (fpModel p).mulJacAux_eq a b (c_inv p h2 hb) hΔ (two_ne_zero_of_lt p h2)

theorem mul_eq (k : ℕ) (hk : k < 2 ^ 800) (P : Aff ℕ) (hP : Valid p a b P) :
    Valid p a b (mul (C p a b) k P) ∧ toPoint p a b (mul (C p a b) k P) = k • toPoint p a b P := by
  rw [valid_eq] at hP ⊢
  rw [toPoint_eq]
  exact (fpModel p).mul_eq a b (c_inv p h2 hb) hΔ (two_ne_zero_of_lt p h2) k hk P hP

theorem sum_eq (ps : List (Aff ℕ)) (hps : ∀ P ∈ ps, Valid p a b P) :
    Valid p a b (sum (C p a b) ps) ∧ toPoint p a b (sum (C p a b) ps) = (ps.map (toPoint p a b)).sum := by
  rw [valid_eq] at hps ⊢
  rw [toPoint_eq]
  exact (fpModel p).sum_eq a b (c_inv p h2 hb) hΔ (two_ne_zero_of_lt p h2) ps hps

omit h2 hb in
theorem toPoint_inj (P Q : Aff ℕ) (hP : Valid p a b P) (hQ : Valid p a b Q)
    (h : toPoint p a b P = toPoint p a b Q) : P = Q := by
  rw [valid_eq] at hP hQ
  rw [toPoint_eq] at h
  exact (fpModel p).toPoint_inj a b hΔ P Q hP hQ h

theorem sum_perm (ps qs : List (Aff ℕ)) (hps : ∀ P ∈ ps, Valid p a b P) (h : ps.Perm qs) :
    sum (C p a b) ps = sum (C p a b) qs := by
  rw [valid_eq] at hps
  exact (fpModel p).sum_perm a b (c_inv p h2 hb) hΔ (two_ne_zero_of_lt p h2) ps qs hps h

end group

end Proofs.CurveGroup
