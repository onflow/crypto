import Mathlib.AlgebraicGeometry.EllipticCurve.Affine.Point
import Mathlib.Tactic.LinearCombination
import Model.Field

/-! The curve arithmetic of the executable model (namespace `Model.Curve` of `Model/Field.lean`), run over a field `K` itself (`ops K`), is the group
law of the curve `y² = x³ + a x + b` as Mathlib defines it (`WeierstrassCurve.Affine.Point`), and the Jacobian
formulas (doubling in the dbl-2007-bl shape, addition in the add-1998-cmo-2 shape) compute the affine ones. No representation of field elements is involved
here; `Proofs/CurveModel.lean` carries the results over to the model's fields of naturals. -/

namespace Proofs.CurveField
open Model Model.Curve WeierstrassCurve.Affine

variable {K : Type} [Field K] (a b : K)

def weier : WeierstrassCurve.Affine K := ⟨0, 0, 0, a, b⟩

theorem negY_eq (x y : K) : (weier a b).negY x y = -y := by
  simp only [negY, weier]; ring

open Classical in
noncomputable def toPt : Aff K → (weier a b).Point
  | none => 0
  | some (x, y) => if h : (weier a b).Nonsingular x y then .some _ _ h else 0

theorem toPt_some {x y : K} (h : (weier a b).Nonsingular x y) : toPt a b (some (x, y)) = .some _ _ h :=
  dif_pos h

theorem some_congr {W : WeierstrassCurve.Affine K} {x y x' y' : K} (h : W.Nonsingular x y) (hx : x = x') (hy : y = y')
    (h' : W.Nonsingular x' y') : Point.some x y h = Point.some x' y' h' := by
  subst hx hy; rfl

variable [DecidableEq K]

noncomputable def ops (K : Type) [Field K] [DecidableEq K] : Fld K :=
  { zero := 0, one := 1, add := (· + ·), sub := (· - ·), mul := (· * ·), neg := (- ·), inv := (·⁻¹),
    beq := fun x y => decide (x = y) }

noncomputable def curve : Params K := ⟨ops K, a, b⟩

theorem curve_f : (curve a b).f = ops K := rfl

theorem onCurve_iff_eq (x y : K) : onCurve (curve a b) (some (x, y)) = true ↔ y ^ 2 = x ^ 3 + a * x + b := by
  simp only [onCurve, curve, ops, decide_eq_true_eq]
  constructor <;> intro h <;> linear_combination h

theorem onCurve_iff (x y : K) : onCurve (curve a b) (some (x, y)) = true ↔ (weier a b).Equation x y := by
  rw [onCurve_iff_eq, equation_iff]
  simp only [weier]
  constructor <;> intro h <;> linear_combination h

theorem addAff_of_X_ne {x1 x2 : K} (y1 y2 : K) (hx : x1 ≠ x2) :
    addAff (curve a b) (some (x1, y1)) (some (x2, y2)) =
      some (((y2 - y1) / (x2 - x1)) ^ 2 - x1 - x2,
        (y2 - y1) / (x2 - x1) * (x1 - (((y2 - y1) / (x2 - x1)) ^ 2 - x1 - x2)) - y1) := by
  simp only [addAff, curve, ops, decide_eq_true_eq, if_neg hx, div_eq_mul_inv, pow_two]

theorem addAff_of_Y_eq (x : K) {y1 y2 : K} (hy : y1 + y2 = 0) :
    addAff (curve a b) (some (x, y1)) (some (x, y2)) = none := by
  simp only [addAff, curve, ops, decide_eq_true_eq, hy, if_true]

theorem addAff_of_Y_ne (x : K) {y1 y2 : K} (hy : y1 + y2 ≠ 0) :
    addAff (curve a b) (some (x, y1)) (some (x, y2)) =
      some (((3 * x ^ 2 + a) / (2 * y1)) ^ 2 - x - x,
        (3 * x ^ 2 + a) / (2 * y1) * (x - (((3 * x ^ 2 + a) / (2 * y1)) ^ 2 - x - x)) - y1) := by
  have e : (1 + (1 + 1)) * (x * x) + a = 3 * x ^ 2 + a := by ring
  simp only [addAff, curve, ops, decide_eq_true_eq, if_neg hy, if_true, e, (two_mul y1).symm, div_eq_mul_inv,
    pow_two]

theorem nonsingular_of_onCurve (hΔ : (weier a b).Δ ≠ 0) {x y : K} (h : onCurve (curve a b) (some (x, y)) = true) :
    (weier a b).Nonsingular x y :=
  ((weier a b).equation_iff_nonsingular_of_Δ_ne_zero hΔ).1 ((onCurve_iff a b x y).1 h)

theorem toPt_of_eq {x y x' y' : K} (h : (weier a b).Nonsingular x' y') (hx : x = x') (hy : y = y') :
    onCurve (curve a b) (some (x, y)) = true ∧ toPt a b (some (x, y)) = .some _ _ h := by
  subst hx hy
  exact ⟨(onCurve_iff a b x y).2 h.1, toPt_some a b h⟩

theorem addAff_toPt (hΔ : (weier a b).Δ ≠ 0) (P Q : Aff K) (hP : onCurve (curve a b) P = true)
    (hQ : onCurve (curve a b) Q = true) :
    onCurve (curve a b) (addAff (curve a b) P Q) = true ∧
      toPt a b (addAff (curve a b) P Q) = toPt a b P + toPt a b Q := by
  match P, Q, hP, hQ with
  | none, Q, _, hQ => exact ⟨hQ, (zero_add _).symm⟩
  | some (x1, y1), none, hP, _ => exact ⟨hP, (add_zero _).symm⟩
  | some (x1, y1), some (x2, y2), hP, hQ =>
    rw [toPt_some a b (nonsingular_of_onCurve a b hΔ hP), toPt_some a b (nonsingular_of_onCurve a b hΔ hQ)]
    by_cases hx : x1 = x2
    · subst hx
      by_cases hy : y1 + y2 = 0
      · rw [addAff_of_Y_eq a b x1 hy, Point.add_of_Y_eq rfl (by rw [negY_eq]; linear_combination hy)]
        exact ⟨rfl, rfl⟩
      · have hy' : y1 ≠ (weier a b).negY x1 y2 := by
          rw [negY_eq]; intro h; apply hy; rw [h]; ring
        rw [addAff_of_Y_ne a b x1 hy, Point.add_of_Y_ne hy']
        have hs : (weier a b).slope x1 x1 y1 y2 = (3 * x1 ^ 2 + a) / (2 * y1) := by
          rw [slope_of_Y_ne rfl hy', negY_eq]; simp only [weier]; ring
        apply toPt_of_eq <;> rw [hs] <;> simp only [addY, negAddY, addX, negY, weier] <;> ring
    · rw [addAff_of_X_ne a b y1 y2 hx, Point.add_of_X_ne hx]
      have hs : (weier a b).slope x1 x2 y1 y2 = (y2 - y1) / (x2 - x1) := by
        rw [slope_of_X_ne hx, ← neg_sub y2 y1, ← neg_sub x2 x1, neg_div_neg_eq]
      apply toPt_of_eq <;> rw [hs] <;> simp only [addY, negAddY, addX, negY, weier] <;> ring

theorem toPt_inj (hΔ : (weier a b).Δ ≠ 0) {P Q : Aff K} (hP : onCurve (curve a b) P = true)
    (hQ : onCurve (curve a b) Q = true) (h : toPt a b P = toPt a b Q) : P = Q := by
  have ns := fun {x y : K} => nonsingular_of_onCurve a b hΔ (x := x) (y := y)
  match P, Q, hP, hQ with
  | none, none, _, _ => rfl
  | none, some (x, y), _, hQ => rw [toPt_some a b (ns hQ)] at h; cases h
  | some (x, y), none, hP, _ => rw [toPt_some a b (ns hP)] at h; cases h
  | some (x1, y1), some (x2, y2), hP, hQ =>
    rw [toPt_some a b (ns hP), toPt_some a b (ns hQ)] at h
    injection h with hx hy
    rw [hx, hy]

def Rep (J : Jac K) : Aff K → Prop
  | none => J.z = 0
  | some (X, Y) => J.z ≠ 0 ∧ J.x = X * J.z ^ 2 ∧ J.y = Y * J.z ^ 3

theorem fromJac_of_Z_eq (x y : K) : fromJac (curve a b) ⟨x, y, 0⟩ = none := by
  simp only [fromJac, curve, ops, decide_true, if_true]

theorem fromJac_of_Z_ne (x y : K) {z : K} (hz : z ≠ 0) :
    fromJac (curve a b) ⟨x, y, z⟩ = some (x / z ^ 2, y / z ^ 3) := by
  simp only [fromJac, curve, ops, decide_eq_true_eq, if_neg hz]
  congr 2 <;> ring

theorem rep_fromJac (J : Jac K) : Rep J (fromJac (curve a b) J) := by
  obtain ⟨x, y, z⟩ := J
  by_cases hz : z = 0
  · subst hz; rw [fromJac_of_Z_eq]; rfl
  · rw [fromJac_of_Z_ne a b x y hz]
    exact ⟨hz, (div_mul_cancel₀ x (pow_ne_zero 2 hz)).symm, (div_mul_cancel₀ y (pow_ne_zero 3 hz)).symm⟩

theorem fromJac_of_rep {J : Jac K} {P : Aff K} (h : Rep J P) : fromJac (curve a b) J = P := by
  obtain ⟨x, y, z⟩ := J
  match P, h with
  | none, h => have hz : z = 0 := h; subst hz; exact fromJac_of_Z_eq a b x y
  | some (X, Y), ⟨hz, hx, hy⟩ =>
    simp only at hz hx hy
    rw [fromJac_of_Z_ne a b x y hz, hx, hy, mul_div_cancel_right₀ X (pow_ne_zero 2 hz),
      mul_div_cancel_right₀ Y (pow_ne_zero 3 hz)]

theorem rep_toJac (P : Aff K) : Rep (toJac (curve a b) P) P := by
  match P with
  | none => rfl
  | some (x, y) => exact ⟨one_ne_zero, (by ring : x = x * 1 ^ 2), (by ring : y = y * 1 ^ 3)⟩

theorem fromJac_toJac (P : Aff K) : fromJac (curve a b) (toJac (curve a b) P) = P :=
  fromJac_of_rep a b (rep_toJac a b P)

theorem dblJac_of_Z_eq_or_Y_eq {x y z : K} (h : z = 0 ∨ y = 0) : dblJac (curve a b) ⟨x, y, z⟩ = ⟨1, 1, 0⟩ := by
  simp only [dblJac, curve, ops, decide_eq_true_eq, Bool.or_eq_true, h, if_true]

theorem rep_dblJac (h2 : (2 : K) ≠ 0) {J : Jac K} {P : Aff K} (h : Rep J P) :
    Rep (dblJac (curve a b) J) (addAff (curve a b) P P) := by
  obtain ⟨x, y, z⟩ := J
  match P, h with
  | none, h => have hz : z = 0 := h; rw [dblJac_of_Z_eq_or_Y_eq a b (Or.inl hz)]; rfl
  | some (X, Y), ⟨hz, hx, hy⟩ =>
    simp only at hz hx hy
    subst hx hy
    by_cases hY : Y = 0
    · subst hY
      rw [dblJac_of_Z_eq_or_Y_eq a b (Or.inr (zero_mul _)), addAff_of_Y_eq a b X (add_zero 0)]; rfl
    · have hyz : Y * z ^ 3 ≠ 0 := mul_ne_zero hY (pow_ne_zero 3 hz)
      have hYY : Y + Y ≠ 0 := by rw [← two_mul]; exact mul_ne_zero h2 hY
      rw [addAff_of_Y_ne a b X hYY]
      generalize hl : (3 * X ^ 2 + a) / (2 * Y) = l
      -- with `a = 2Yl - 3X²` for the tangent slope `l`, what is left is an identity of polynomials
      have ha : a = l * (2 * Y) - 3 * X ^ 2 := by rw [← hl, div_mul_cancel₀ _ (mul_ne_zero h2 hY)]; ring
      subst ha
      have hz3 : (Y * z ^ 3 + z) * (Y * z ^ 3 + z) - Y * z ^ 3 * (Y * z ^ 3) - z * z = 2 * Y * z ^ 4 := by ring
      simp only [dblJac, curve, ops, decide_eq_true_eq, Bool.or_eq_true, hz, hyz, or_self, if_false, Rep, hz3]
      exact ⟨mul_ne_zero (mul_ne_zero h2 hY) (pow_ne_zero 4 hz), by ring, by ring⟩

theorem fromJac_dblJac (h2 : (2 : K) ≠ 0) (J : Jac K) :
    fromJac (curve a b) (dblJac (curve a b) J) =
      addAff (curve a b) (fromJac (curve a b) J) (fromJac (curve a b) J) :=
  fromJac_of_rep a b (rep_dblJac a b h2 (rep_fromJac a b J))

theorem addJac_zero_left (x y : K) (Q : Jac K) : addJac (curve a b) ⟨x, y, 0⟩ Q = Q := by
  simp only [addJac, curve, ops, decide_true, if_true]

theorem addJac_zero_right {P : Jac K} (hz : P.z ≠ 0) (x y : K) : addJac (curve a b) P ⟨x, y, 0⟩ = P := by
  simp only [addJac, curve, ops, decide_eq_true_eq, decide_true, if_neg hz, if_true]

theorem rep_addJac (h2 : (2 : K) ≠ 0) {J1 J2 : Jac K} {P1 P2 : Aff K} (r1 : Rep J1 P1) (r2 : Rep J2 P2)
    (hP1 : onCurve (curve a b) P1 = true) (hP2 : onCurve (curve a b) P2 = true) :
    Rep (addJac (curve a b) J1 J2) (addAff (curve a b) P1 P2) := by
  obtain ⟨x1, y1, z1⟩ := J1
  obtain ⟨x2, y2, z2⟩ := J2
  match P1, P2, r1, r2, hP1, hP2 with
  | none, P2, r1, r2, _, _ =>
    have hz : z1 = 0 := r1
    subst hz
    rw [addJac_zero_left]; exact r2
  | some (X1, Y1), none, r1, r2, _, _ =>
    have hz : z2 = 0 := r2
    subst hz
    rw [addJac_zero_right a b r1.1]; exact r1
  | some (X1, Y1), some (X2, Y2), ⟨hz1, hx1, hy1⟩, ⟨hz2, hx2, hy2⟩, hP1, hP2 =>
    simp only at hz1 hx1 hy1 hz2 hx2 hy2
    subst hx1 hy1 hx2 hy2
    -- the model compares `U₁` with `U₂` and `S₁` with `S₂` (Jacobian `x·Z'²`, `y·Z'³`): that compares the affine coordinates
    have hu : X1 * z1 ^ 2 * (z2 * z2) = X2 * z2 ^ 2 * (z1 * z1) ↔ X1 = X2 := by
      refine Iff.trans ?_ (mul_left_inj' (mul_ne_zero (pow_ne_zero 2 hz1) (pow_ne_zero 2 hz2)))
      constructor <;> intro h <;> linear_combination h
    have hs : Y1 * z1 ^ 3 * (z2 * (z2 * z2)) = Y2 * z2 ^ 3 * (z1 * (z1 * z1)) ↔ Y1 = Y2 := by
      refine Iff.trans ?_ (mul_left_inj' (mul_ne_zero (pow_ne_zero 3 hz1) (pow_ne_zero 3 hz2)))
      constructor <;> intro h <;> linear_combination h
    simp only [addJac, curve_f, ops, decide_eq_true_eq, if_neg hz1, if_neg hz2, hu, hs]
    by_cases hX : X1 = X2
    · subst hX
      rw [if_pos rfl]
      by_cases hY : Y1 = Y2
      · subst hY
        rw [if_pos rfl]
        exact rep_dblJac a b h2 ⟨hz1, rfl, rfl⟩
      · rw [onCurve_iff_eq] at hP1 hP2
        -- equal `x` and both on the curve: `y₁² = y₂²`
        have hprod : (Y1 - Y2) * (Y1 + Y2) = 0 := by linear_combination hP1 - hP2
        rw [if_neg hY, addAff_of_Y_eq a b X1 ((mul_eq_zero.1 hprod).resolve_left (sub_ne_zero.2 hY))]
        rfl
    · have hX' : X2 - X1 ≠ 0 := sub_ne_zero.2 (Ne.symm hX)
      have hz3 : z1 * z2 * (X2 * z2 ^ 2 * (z1 * z1) - X1 * z1 ^ 2 * (z2 * z2)) = z1 ^ 3 * z2 ^ 3 * (X2 - X1) := by
        ring
      rw [if_neg hX, addAff_of_X_ne a b Y1 Y2 hX]
      generalize hl : (Y2 - Y1) / (X2 - X1) = l
      -- with `Y₂ = Y₁ + l (X₂ - X₁)` for the chord slope `l`, what is left is an identity of polynomials
      have hY2 : Y2 = Y1 + l * (X2 - X1) := by rw [← hl, div_mul_cancel₀ _ hX']; ring
      subst hY2
      simp only [Rep, hz3]
      exact ⟨mul_ne_zero (mul_ne_zero (pow_ne_zero 3 hz1) (pow_ne_zero 3 hz2)) hX', by ring, by ring⟩

theorem fromJac_addJac (h2 : (2 : K) ≠ 0) (P Q : Jac K) (hP : onCurve (curve a b) (fromJac (curve a b) P) = true)
    (hQ : onCurve (curve a b) (fromJac (curve a b) Q) = true) :
    fromJac (curve a b) (addJac (curve a b) P Q) =
      addAff (curve a b) (fromJac (curve a b) P) (fromJac (curve a b) Q) :=
  fromJac_of_rep a b (rep_addJac a b h2 (rep_fromJac a b P) (rep_fromJac a b Q) hP hQ)

end Proofs.CurveField
