import Proofs.DkgUpdates

/-! The complaint table of Feldman-VSS-Qual (`Model.Dkg.FvssQ`) and states up to its order: lookup and `setC` (unique keys:
`KeysNodup`); the readers of the dealer's two messages (`parseVec`, `parseShare`) and the answered complaints that a
vector contradicts (`entryBad`, `anyBad`); `Rel` (both disqualified, or equal); `Equiv`
(the same state with the table up to a permutation: Go iterates over a map, only the entries matter) and `RelP` (both
disqualified - then every later message is ignored and `End` fails - or `Equiv`); the guarded step `live`, so that a
commutation is stated once for the bodies and lifted (`live_comm`); single-entry updates `Upd` with `applyUpd`. -/

namespace Proofs.DkgAgree
open Model.Dkg

/-- the `received` mark of a table entry; a missing entry has none -/
def recvOf : Option Complaint → Bool
  | some c => c.received
  | none => false

end Proofs.DkgAgree

namespace Proofs.DkgCommute
open Model Model.Dkg
variable {O : Ops}

/-- both disqualified, or the same state -/
def Rel (a b : St O) : Prop := (a.disqualified = true ∧ b.disqualified = true) ∨ a = b

theorem Rel.refl' (a : St O) : Rel a a := Or.inr rfl

def parseVec (s : St O) (data : Bytes) : Option O.Vec :=
  if data.length ≠ verifVectorSize * (s.threshold + 1) then none else O.readVec s.threshold s.size data

def parseShare (O : Ops) (data : Bytes) : Option Nat :=
  if data.length = 0 ∨ data.headD 0 ≠ tagShare then none
  else if (data.drop 1).length ≠ shareSize then none
  else O.readScalar (data.drop 1)

def entryBad (s : St O) (k : Nat) (c : Complaint) : Bool := c.received && c.answerReceived && s.checkComplaint k c

/-- some registered complaint has an answer that does not match the vector -/
def anyBad (s : St O) : Bool := s.complaints.any (fun kc => entryBad s kc.1 kc.2)

def othersBad (s : St O) (k : Nat) : Bool := (s.complaints.filter (·.1 != k)).any (fun kc => entryBad s kc.1 kc.2)

section simp_lemmas
variable (s : St O) (v : O.Vec) (x a k : Nat) (b : Bool) (c : Complaint) (l : List (Nat × Complaint))

@[simp] theorem find_setVec : (setVec s v).find k = s.find k := rfl
@[simp] theorem find_vecBad : (vecBad s).find k = s.find k := rfl
@[simp] theorem find_markX : (markX s).find k = s.find k := rfl
@[simp] theorem find_setX : (setX s x).find k = s.find k := rfl
@[simp] theorem find_setDisq : (setDisq s b).find k = s.find k := rfl
@[simp] theorem find_adoptX : (adoptX s a).find k = s.find k := rfl

@[simp] theorem cc_setVec : (setVec s v).checkComplaint k c = !(O.checkLog v k c.answer) := rfl
@[simp] theorem cc_markX : (markX s).checkComplaint k c = s.checkComplaint k c := rfl
@[simp] theorem cc_setX : (setX s x).checkComplaint k c = s.checkComplaint k c := rfl
@[simp] theorem cc_setDisq : (setDisq s b).checkComplaint k c = s.checkComplaint k c := rfl
@[simp] theorem cc_adoptX : (adoptX s a).checkComplaint k c = s.checkComplaint k c := rfl
@[simp] theorem cc_setC (k' : Nat) (c' : Complaint) : (s.setC k' c').checkComplaint k c = s.checkComplaint k c := rfl

@[simp] theorem vs_setVec : (setVec s v).verifyShare = O.checkLog v s.me s.x := rfl
@[simp] theorem vs_setDisq : (setDisq s b).verifyShare = s.verifyShare := rfl
@[simp] theorem vs_markX : (markX s).verifyShare = s.verifyShare := rfl
@[simp] theorem vs_setC (k' : Nat) (c' : Complaint) : (s.setC k' c').verifyShare = s.verifyShare := rfl

@[simp] theorem eb_markX : entryBad (markX s) k c = entryBad s k c := rfl
@[simp] theorem eb_setX : entryBad (setX s x) k c = entryBad s k c := rfl
@[simp] theorem eb_setDisq : entryBad (setDisq s b) k c = entryBad s k c := rfl
@[simp] theorem eb_adoptX : entryBad (adoptX s a) k c = entryBad s k c := rfl
@[simp] theorem eb_setC (k' : Nat) (c' : Complaint) : entryBad (s.setC k' c') k c = entryBad s k c := rfl

@[simp] theorem ab_markX : anyBad (markX s) = anyBad s := rfl
@[simp] theorem ab_setX : anyBad (setX s x) = anyBad s := rfl
@[simp] theorem ab_setDisq : anyBad (setDisq s b) = anyBad s := rfl
@[simp] theorem ab_adoptX : anyBad (adoptX s a) = anyBad s := rfl
@[simp] theorem ob_markX : othersBad (markX s) k = othersBad s k := rfl
@[simp] theorem ob_setX : othersBad (setX s x) k = othersBad s k := rfl
@[simp] theorem ob_setDisq : othersBad (setDisq s b) k = othersBad s k := rfl
@[simp] theorem ob_adoptX : othersBad (adoptX s a) k = othersBad s k := rfl

end simp_lemmas

/-- at most one entry per complainer -/
def KeysNodup (s : St O) : Prop := (s.complaints.map (·.1)).Nodup

theorem find_none_filter (l : List (Nat × Complaint)) (k : Nat)
    (h : l.find? (·.1 == k) = none) : l.filter (·.1 != k) = l := by
  induction l with
  | nil => rfl
  | cons a t ih =>
    simp only [List.find?_cons] at h
    split at h
    · cases h
    · rename_i hne
      simp only [List.filter_cons]
      have : (a.1 != k) = true := by simpa [bne] using hne
      rw [this, if_pos rfl, ih h]

theorem any_split (l : List (Nat × Complaint)) (k : Nat) (c : Complaint) (p : Nat × Complaint → Bool)
    (hn : (l.map (·.1)).Nodup) (h : l.find? (·.1 == k) = some (k, c)) :
    l.any p = (p (k, c) || (l.filter (·.1 != k)).any p) := by
  induction l with
  | nil => simp at h
  | cons a t ih =>
    simp only [List.find?_cons] at h
    simp only [List.map_cons, List.nodup_cons] at hn
    split at h
    · have ha : a = (k, c) := Option.some.inj h
      subst ha
      simp only [List.any_cons, List.filter_cons, bne_self_eq_false, Bool.false_eq_true, if_false]
      congr 1
      have : t.find? (·.1 == k) = none := by
        rw [List.find?_eq_none]
        intro x hx hk
        apply hn.1
        have : x.1 = k := by simpa using hk
        rw [← this]
        exact List.mem_map.2 ⟨x, hx, rfl⟩
      rw [find_none_filter t k this]
    · rename_i hne
      have hak : (a.1 != k) = true := by simpa [bne] using hne
      simp only [List.any_cons, List.filter_cons, hak, if_true]
      rw [ih hn.2 h]
      cases p a <;> cases p (k, c) <;> simp

theorem find_some_key (l : List (Nat × Complaint)) (k : Nat) (kc : Nat × Complaint)
    (h : l.find? (·.1 == k) = some kc) : kc.1 = k := by
  have := List.find?_some h
  simpa using this

theorem find_of_mem (l : List (Nat × Complaint)) (hn : (l.map (·.1)).Nodup) (k : Nat) (c : Complaint)
    (h : (k, c) ∈ l) : l.find? (·.1 == k) = some (k, c) := by
  induction l with
  | nil => cases h
  | cons a t ih =>
    simp only [List.map_cons, List.nodup_cons] at hn
    simp only [List.find?_cons]
    rcases List.mem_cons.1 h with h | h
    · subst h; simp
    · have hne : a.1 ≠ k := by
        intro he
        apply hn.1
        rw [he]
        exact List.mem_map.2 ⟨(k, c), h, rfl⟩
      have : (a.1 == k) = false := by simpa using hne
      rw [this]
      exact ih hn.2 h

theorem St.find_of_mem {s : St O} (hn : KeysNodup s) {k : Nat} {c : Complaint} (h : (k, c) ∈ s.complaints) :
    s.find k = some c := by
  unfold St.find
  rw [DkgCommute.find_of_mem s.complaints hn k c h]
  rfl

theorem anyBad_eq (s : St O) (hn : KeysNodup s) (k : Nat) :
    anyBad s = ((s.find k).any (entryBad s k) || othersBad s k) := by
  unfold anyBad othersBad St.find
  cases hf : s.complaints.find? (·.1 == k) with
  | none => rw [find_none_filter _ _ hf]; rfl
  | some kc =>
    have hk : kc = (k, kc.2) := Prod.ext (find_some_key _ _ _ hf) rfl
    rw [hk] at hf
    rw [any_split _ k kc.2 _ hn hf]; rfl

@[simp] theorem anyBad_setC (s : St O) (k : Nat) (c : Complaint) :
    anyBad (s.setC k c) = (entryBad s k c || othersBad s k) := by
  unfold anyBad othersBad
  simp only [setC_complaints, List.any_cons]
  rfl

@[simp] theorem othersBad_setC (s : St O) (k : Nat) (c : Complaint) : othersBad (s.setC k c) k = othersBad s k := by
  unfold othersBad
  simp only [setC_complaints, List.filter_cons, bne_self_eq_false, Bool.false_eq_true, if_false, List.filter_filter,
    Bool.and_self]
  rfl

theorem find_setC (s : St O) (j k : Nat) (c : Complaint) :
    (s.setC k c).find j = if j = k then some c else s.find j := by
  unfold St.find
  rw [setC_complaints, List.find?_cons]
  by_cases h : j = k
  · subst h; rw [if_pos rfl]; simp
  · have hk : (k == j) = false := by simpa using Ne.symm h
    have hp : ∀ a : Nat × Complaint, (a.1 != k && a.1 == j) = (a.1 == j) := by
      intro a
      by_cases e : a.1 = j
      · simp [e, h]
      · simp [e]
    simp only [if_neg h, hk, List.find?_filter]
    congr 2
    funext a
    exact (Bool.decide_and _ _).trans (by rw [Bool.decide_eq_true, Bool.decide_eq_true]; exact hp a)

@[simp] theorem find_setC_same (s : St O) (k : Nat) (c : Complaint) : (s.setC k c).find k = some c := by
  rw [find_setC, if_pos rfl]

theorem setC_setC (s : St O) (k : Nat) (c1 c2 : Complaint) : (s.setC k c1).setC k c2 = s.setC k c2 := by
  unfold St.setC
  simp only [List.filter_cons, bne_self_eq_false, Bool.false_eq_true, if_false, List.filter_filter, Bool.and_self]

theorem St.find_congr {s t : St O} (h : t.complaints = s.complaints) (k : Nat) : t.find k = s.find k := by
  unfold St.find; rw [h]

theorem othersBad_setVec_congr (s t : St O) (v : O.Vec) (k : Nat) (h : s.complaints = t.complaints) :
    othersBad (setVec s v) k = othersBad (setVec t v) k := by
  unfold othersBad entryBad
  simp only [setVec_complaints, cc_setVec, h]

theorem entryBad_setVec (s : St O) (v : O.Vec) (k : Nat) (c : Complaint) :
    entryBad (setVec s v) k c = (c.received && c.answerReceived && !(O.checkLog v k c.answer)) := rfl

/-- same state, the complaint table up to a permutation (Go iterates over a map; the code looks entries up by key and
    counts them, so with unique keys the order is never observed) -/
def Equiv (a b : St O) : Prop :=
  a.size = b.size ∧ a.threshold = b.threshold ∧ a.me = b.me ∧ a.dealer = b.dealer ∧ a.running = b.running ∧
  a.a = b.a ∧ a.vA = b.vA ∧ a.vAReceived = b.vAReceived ∧ a.x = b.x ∧ a.xReceived = b.xReceived ∧
  a.validKey = b.validKey ∧ a.complaints.Perm b.complaints ∧ a.disqualified = b.disqualified ∧
  a.sharesTimeout = b.sharesTimeout ∧ a.complaintsTimeout = b.complaintsTimeout

theorem Equiv.refl' (a : St O) : Equiv a a :=
  ⟨rfl, rfl, rfl, rfl, rfl, rfl, rfl, rfl, rfl, rfl, rfl, List.Perm.refl _, rfl, rfl, rfl⟩

theorem Equiv.of_eq {a b : St O} (h : a = b) : Equiv a b := h ▸ Equiv.refl' a

theorem Equiv.symm' {a b : St O} (h : Equiv a b) : Equiv b a := by
  obtain ⟨h1, h2, h3, h4, h5, h6, h7, h8, h9, h10, h11, h12, h13, h14, h15⟩ := h
  exact ⟨h1.symm, h2.symm, h3.symm, h4.symm, h5.symm, h6.symm, h7.symm, h8.symm, h9.symm, h10.symm, h11.symm,
    h12.symm, h13.symm, h14.symm, h15.symm⟩

theorem Equiv.trans' {a b c : St O} (h : Equiv a b) (g : Equiv b c) : Equiv a c := by
  obtain ⟨h1, h2, h3, h4, h5, h6, h7, h8, h9, h10, h11, h12, h13, h14, h15⟩ := h
  obtain ⟨g1, g2, g3, g4, g5, g6, g7, g8, g9, g10, g11, g12, g13, g14, g15⟩ := g
  exact ⟨h1.trans g1, h2.trans g2, h3.trans g3, h4.trans g4, h5.trans g5, h6.trans g6, h7.trans g7, h8.trans g8,
    h9.trans g9, h10.trans g10, h11.trans g11, h12.trans g12, h13.trans g13, h14.trans g14, h15.trans g15⟩

theorem Equiv.size {a b : St O} (h : Equiv a b) : a.size = b.size := h.1
theorem Equiv.threshold {a b : St O} (h : Equiv a b) : a.threshold = b.threshold := h.2.1
theorem Equiv.me {a b : St O} (h : Equiv a b) : a.me = b.me := h.2.2.1
theorem Equiv.dealer {a b : St O} (h : Equiv a b) : a.dealer = b.dealer := h.2.2.2.1
theorem Equiv.running {a b : St O} (h : Equiv a b) : a.running = b.running := h.2.2.2.2.1
theorem Equiv.a {a b : St O} (h : Equiv a b) : a.a = b.a := h.2.2.2.2.2.1
theorem Equiv.vA {a b : St O} (h : Equiv a b) : a.vA = b.vA := h.2.2.2.2.2.2.1
theorem Equiv.vAReceived {a b : St O} (h : Equiv a b) : a.vAReceived = b.vAReceived := h.2.2.2.2.2.2.2.1
theorem Equiv.x {a b : St O} (h : Equiv a b) : a.x = b.x := h.2.2.2.2.2.2.2.2.1
theorem Equiv.xReceived {a b : St O} (h : Equiv a b) : a.xReceived = b.xReceived := h.2.2.2.2.2.2.2.2.2.1
theorem Equiv.validKey {a b : St O} (h : Equiv a b) : a.validKey = b.validKey := h.2.2.2.2.2.2.2.2.2.2.1
theorem Equiv.perm {a b : St O} (h : Equiv a b) : a.complaints.Perm b.complaints := h.2.2.2.2.2.2.2.2.2.2.2.1
theorem Equiv.disqualified {a b : St O} (h : Equiv a b) : a.disqualified = b.disqualified :=
  h.2.2.2.2.2.2.2.2.2.2.2.2.1
theorem Equiv.sharesTimeout {a b : St O} (h : Equiv a b) : a.sharesTimeout = b.sharesTimeout :=
  h.2.2.2.2.2.2.2.2.2.2.2.2.2.1
theorem Equiv.complaintsTimeout {a b : St O} (h : Equiv a b) : a.complaintsTimeout = b.complaintsTimeout :=
  h.2.2.2.2.2.2.2.2.2.2.2.2.2.2

theorem equiv_iff {a b : St O} : Equiv a b ↔ setCs a [] = setCs b [] ∧ a.complaints.Perm b.complaints := by
  constructor
  · intro h
    exact ⟨St.ext' _ _ h.size h.threshold h.me h.dealer h.running h.a h.vA h.vAReceived h.x h.xReceived h.validKey rfl
      h.disqualified h.sharesTimeout h.complaintsTimeout, h.perm⟩
  · rintro ⟨h, hp⟩
    have p : ∀ {α : Type} (f : St O → α), f (setCs a []) = f (setCs b []) := fun f => congrArg f h
    exact ⟨p St.size, p St.threshold, p St.me, p St.dealer, p St.running, p St.a, p St.vA, p St.vAReceived, p St.x,
      p St.xReceived, p St.validKey, hp, p St.disqualified, p St.sharesTimeout, p St.complaintsTimeout⟩

/-- an update that neither reads nor writes the complaint table respects the equivalence -/
theorem Equiv.map {a b : St O} (h : Equiv a b) (f : St O → St O) (hf : ∀ t l, setCs (f t) l = f (setCs t l)) :
    Equiv (f a) (f b) := by
  have hc : ∀ t : St O, (f t).complaints = t.complaints := fun t => (congrArg St.complaints (hf t t.complaints)).symm
  rw [equiv_iff] at h ⊢
  rw [hf, hf, h.1, hc, hc]
  exact ⟨rfl, h.2⟩

/-- both disqualified, or the same state up to the order of the complaint table -/
def RelP (a b : St O) : Prop := (a.disqualified = true ∧ b.disqualified = true) ∨ Equiv a b

theorem Rel.toP {a b : St O} (h : Rel a b) : RelP a b := by
  rcases h with h | h
  · exact Or.inl h
  · subst h; exact Or.inr (Equiv.refl' _)

theorem RelP.symm' {a b : St O} (h : RelP a b) : RelP b a := by
  rcases h with h | h
  · exact Or.inl ⟨h.2, h.1⟩
  · exact Or.inr h.symm'

/-- `g`, skipped on a disqualified state: the guard `if s.disqualified` of `bcastBody` and `privBody` -/
def live (g : St O → St O) (t : St O) : St O := if t.disqualified then t else g t

theorem live_disq (g : St O → St O) {t : St O} (h : t.disqualified = true) : live g t = t := if_pos h

theorem live_ok (g : St O → St O) {t : St O} (h : t.disqualified = false) : live g t = g t :=
  if_neg (by rw [h]; exact Bool.false_ne_true)

theorem live_absorb (g : St O → St O) (t : St O) (h : t.disqualified = false → (g t).disqualified = true) :
    (live g t).disqualified = true := by
  cases ht : t.disqualified
  · rw [live_ok g ht]; exact h ht
  · rw [live_disq g ht]; exact ht

theorem live_congr {g g' : St O → St O} {t : St O} (h : t.disqualified = false → g t = g' t) :
    live g t = live g' t := by
  cases ht : t.disqualified
  · rw [live_ok g ht, live_ok g' ht, h ht]
  · rw [live_disq g ht, live_disq g' ht]

theorem live_noop {g : St O → St O} {t : St O} (h : g t = t) : live g t = t := by
  unfold live; rw [h, ite_self]

theorem RelP.disq_right {a b : St O} (h : RelP a b) (ha : a.disqualified = true) : b.disqualified = true := by
  rcases h with h | h
  · exact h.2
  · rw [← h.disqualified]; exact ha

theorem live_comm (f g : St O → St O) (s : St O)
    (hf : (f s).disqualified = true → (g s).disqualified = false → (f (g s)).disqualified = true)
    (hg : (g s).disqualified = true → (f s).disqualified = false → (g (f s)).disqualified = true)
    (hc : (f s).disqualified = false → (g s).disqualified = false → Equiv (g (f s)) (f (g s))) :
    RelP (live g (f s)) (live f (g s)) := by
  cases h1 : (f s).disqualified <;> cases h2 : (g s).disqualified
  · rw [live_ok g h1, live_ok f h2]; exact Or.inr (hc h1 h2)
  · rw [live_ok g h1, live_disq f h2]; exact Or.inl ⟨hg h2 h1, h2⟩
  · rw [live_disq g h1, live_ok f h2]; exact Or.inl ⟨h1, hf h1 h2⟩
  · rw [live_disq g h1, live_disq f h2]; exact Or.inl ⟨h1, h2⟩

theorem live_comm_noop (f g : St O → St O) (s : St O) (hdq : s.disqualified = false) (hs : g s = s)
    (hf : g (f s) = f s) : RelP (live g (f s)) (live f (g s)) := by
  rw [live_noop hf, hs, live_ok f hdq]
  exact Or.inr (Equiv.refl' _)

/-- what a complaint / answer / own-complaint step does: at most one table entry, the verdict, the share -/
structure Upd where
  entry : Option Complaint := none
  disq : Option Bool := none
  x : Option Nat := none

def applyUpd (s : St O) (k : Nat) (u : Upd) : St O :=
  let s1 := match u.entry with | some c => s.setC k c | none => s
  let s2 := match u.disq with | some b => setDisq s1 b | none => s1
  match u.x with | some a => adoptX s2 a | none => s2

theorem applyUpd_eq (s : St O) (k : Nat) (u : Upd) : applyUpd s k u =
    { s with complaints := (match u.entry with | some c => (s.setC k c).complaints | none => s.complaints),
             disqualified := u.disq.getD s.disqualified, x := u.x.getD s.x } := by
  unfold applyUpd
  cases u.entry <;> cases u.disq <;> cases u.x <;> rfl

theorem applyUpd_empty (s : St O) (k : Nat) : applyUpd s k {} = s := rfl

section fields
variable (s : St O) (k : Nat) (u : Upd)
@[simp] theorem applyUpd_size : (applyUpd s k u).size = s.size := by rw [applyUpd_eq]
@[simp] theorem applyUpd_threshold : (applyUpd s k u).threshold = s.threshold := by rw [applyUpd_eq]
@[simp] theorem applyUpd_me : (applyUpd s k u).me = s.me := by rw [applyUpd_eq]
@[simp] theorem applyUpd_dealer : (applyUpd s k u).dealer = s.dealer := by rw [applyUpd_eq]
@[simp] theorem applyUpd_running : (applyUpd s k u).running = s.running := by rw [applyUpd_eq]
@[simp] theorem applyUpd_a : (applyUpd s k u).a = s.a := by rw [applyUpd_eq]
@[simp] theorem applyUpd_vA : (applyUpd s k u).vA = s.vA := by rw [applyUpd_eq]
@[simp] theorem applyUpd_vAReceived : (applyUpd s k u).vAReceived = s.vAReceived := by rw [applyUpd_eq]
@[simp] theorem applyUpd_xReceived : (applyUpd s k u).xReceived = s.xReceived := by rw [applyUpd_eq]
@[simp] theorem applyUpd_validKey : (applyUpd s k u).validKey = s.validKey := by rw [applyUpd_eq]
@[simp] theorem applyUpd_sharesTimeout : (applyUpd s k u).sharesTimeout = s.sharesTimeout := by rw [applyUpd_eq]
@[simp] theorem applyUpd_complaintsTimeout : (applyUpd s k u).complaintsTimeout = s.complaintsTimeout := by
  rw [applyUpd_eq]

theorem applyUpd_disq : (applyUpd s k u).disqualified = (match u.disq with | some b => b | none => s.disqualified) := by
  rw [applyUpd_eq]; cases u.disq <;> rfl

theorem applyUpd_x : (applyUpd s k u).x = (match u.x with | some a => a | none => s.x) := by
  rw [applyUpd_eq]; cases u.x <;> rfl

theorem applyUpd_complaints :
    (applyUpd s k u).complaints = (match u.entry with | some c => (s.setC k c).complaints | none => s.complaints) := by
  rw [applyUpd_eq]

end fields

theorem applyUpd_disq_iff (s : St O) (hdq : s.disqualified = false) (k : Nat) (u : Upd) :
    (applyUpd s k u).disqualified = true ↔ u.disq = some true := by
  rw [applyUpd_disq]
  cases u.disq with
  | none => simp [hdq]
  | some b => simp

theorem applyUpd_disq_some (s : St O) (k : Nat) (u : Upd) {b : Bool} (h : u.disq = some b) :
    (applyUpd s k u).disqualified = b := by
  rw [applyUpd_disq, h]

theorem applyUpd_find (s : St O) (j k : Nat) (u : Upd) :
    (applyUpd s k u).find j = if j = k then (u.entry <|> s.find k) else s.find j := by
  have hc := applyUpd_complaints s k u
  cases he : u.entry with
  | none =>
    rw [he] at hc
    rw [St.find_congr hc]
    by_cases h : j = k
    · rw [if_pos h, h]; rfl
    · rw [if_neg h]
  | some c =>
    rw [he] at hc
    rw [St.find_congr (s := s.setC k c) hc, find_setC]
    rfl

theorem applyUpd_find_stable (s : St O) (j k : Nat) (u : Upd) (h : j ≠ k ∨ u.entry = none) :
    (applyUpd s k u).find j = s.find j := by
  rw [applyUpd_find]
  split
  · rename_i e
    rcases h with h | h
    · exact absurd e h
    · rw [h, e]; rfl
  · rfl

theorem setC_comm_perm (l : List (Nat × Complaint)) (j k : Nat) (cj ck : Complaint) (h : j ≠ k) :
    ((j, cj) :: ((k, ck) :: l.filter (·.1 != k)).filter (·.1 != j)).Perm
    ((k, ck) :: ((j, cj) :: l.filter (·.1 != j)).filter (·.1 != k)) := by
  have hkj : ((k, ck) : Nat × Complaint).1 != j := by simpa [bne] using (Ne.symm h)
  have hjk : ((j, cj) : Nat × Complaint).1 != k := by simpa [bne] using h
  simp only [List.filter_cons, hkj, hjk, if_true, List.filter_filter]
  refine (List.Perm.swap _ _ _).trans ?_
  refine List.Perm.cons _ (List.Perm.cons _ ?_)
  have : (fun a : Nat × Complaint => (a.1 != k && a.1 != j)) = (fun a => (a.1 != j && a.1 != k)) := by
    funext a; exact Bool.and_comm _ _
  rw [this]

theorem applyUpd_comm (s : St O) (j k : Nat) (u1 u2 : Upd) (h : j ≠ k ∨ u1.entry = none ∨ u2.entry = none)
    (hx : u1.x = none ∨ u2.x = none)
    (hd : ∀ b1 b2, u1.disq = some b1 → u2.disq = some b2 → b1 = b2) :
    Equiv (applyUpd (applyUpd s k u1) j u2) (applyUpd (applyUpd s j u2) k u1) := by
  have hD : u2.disq.getD (u1.disq.getD s.disqualified) = u1.disq.getD (u2.disq.getD s.disqualified) := by
    cases h1 : u1.disq <;> cases h2 : u2.disq <;> first | rfl | exact (hd _ _ h1 h2).symm
  have hX : u2.x.getD (u1.x.getD s.x) = u1.x.getD (u2.x.getD s.x) := by
    rcases hx with hx | hx <;> rw [hx] <;> rfl
  rw [equiv_iff]
  constructor
  · simp only [applyUpd_eq]
    dsimp only [setCs]
    rw [hD, hX]
  · rw [applyUpd_complaints (applyUpd s k u1), applyUpd_complaints (applyUpd s j u2)]
    cases h1 : u1.entry with
    | none =>
      cases h2 : u2.entry <;> simp only [setC_complaints, applyUpd_complaints, h1, h2] <;> exact List.Perm.refl _
    | some c1 =>
      cases h2 : u2.entry with
      | none => simp only [setC_complaints, applyUpd_complaints, h1, h2]; exact List.Perm.refl _
      | some c2 =>
        simp only [setC_complaints, applyUpd_complaints, h1, h2]
        rcases h with h | h | h
        · exact setC_comm_perm s.complaints j k c2 c1 h
        · rw [h1] at h; cases h
        · rw [h2] at h; cases h

theorem upd_pair (s : St O) (hdq : s.disqualified = false) (j k : Nat) (u1 u2 : Upd)
    (h : j ≠ k ∨ u1.entry = none ∨ u2.entry = none)
    (hx : u1.x = none ∨ u2.x = none) :
    RelP (live (fun t => applyUpd t j u2) (applyUpd s k u1)) (live (fun t => applyUpd t k u1) (applyUpd s j u2)) := by
  have hT := applyUpd_disq_iff s hdq
  refine live_comm (fun t => applyUpd t k u1) (fun t => applyUpd t j u2) s
    (fun h1 _ => applyUpd_disq_some _ k u1 ((hT k u1).1 h1))
    (fun h2 _ => applyUpd_disq_some _ j u2 ((hT j u2).1 h2)) ?_
  intro h1 h2
  refine applyUpd_comm s j k u1 u2 h hx ?_
  -- neither verdict is `true`
  intro b1 b2 e1 e2
  cases b1 with
  | true => rw [(hT k u1).2 e1] at h1; cases h1
  | false =>
    cases b2 with
    | true => rw [(hT j u2).2 e2] at h2; cases h2
    | false => rfl

theorem setVec_applyUpd (s : St O) (v : O.Vec) (k : Nat) (u : Upd) :
    setVec (applyUpd s k u) v = applyUpd (setVec s v) k u := by
  rw [applyUpd_eq, applyUpd_eq]; rfl

theorem markX_applyUpd (s : St O) (k : Nat) (u : Upd) : markX (applyUpd s k u) = applyUpd (markX s) k u := by
  rw [applyUpd_eq, applyUpd_eq]; rfl

theorem setDisq_false_id (t : St O) (h : t.disqualified = false) : setDisq t false = t := by
  apply St.ext' <;> simp [h]

theorem anyBad_applyUpd_entry (t : St O) (k : Nat) (c : Complaint) :
    anyBad (applyUpd t k { entry := some c }) = (entryBad t k c || othersBad t k) := by
  show anyBad (t.setC k c) = _
  exact anyBad_setC t k c

end Proofs.DkgCommute
