import Proofs.BytesCore
import Mathlib.Tactic.Ring

/-! Byte-string / number conversion lemmas (round trips, bounds, append for `leNat` / `beNat`). -/

namespace Model

theorem natBE_length (k n : Nat) : (natBE k n).length = k := by
  simp [natBE, natLE_length]

theorem leNat_lt (l : Bytes) : leNat l < 256 ^ l.length := by
  induction l with
  | nil => simp [leNat]
  | cons b t ih =>
    simp only [leNat, List.length_cons, Nat.pow_succ]
    have := b.toNat_lt
    omega

theorem natLE_leNat (l : Bytes) : natLE l.length (leNat l) = l := by
  induction l with
  | nil => rfl
  | cons b t ih =>
    simp only [List.length_cons, natLE, leNat]
    have hb := b.toNat_lt
    have h1 : (b.toNat + 256 * leNat t) % 256 = b.toNat := by omega
    have h2 : (b.toNat + 256 * leNat t) / 256 = leNat t := by omega
    rw [h1, h2, ih]
    simp

theorem leNat_append (u v : Bytes) : leNat (u ++ v) = leNat u + 256 ^ u.length * leNat v := by
  induction u with
  | nil => simp [leNat]
  | cons c u ih =>
    simp only [List.cons_append, leNat, ih, List.length_cons, Nat.pow_succ]
    ring

theorem beNat_foldl (l : Bytes) (acc : Nat) :
    l.foldl (fun acc b => acc * 256 + b.toNat) acc = acc * 256 ^ l.length + leNat l.reverse := by
  induction l generalizing acc with
  | nil => simp [leNat]
  | cons b t ih =>
    rw [List.foldl_cons, ih, List.reverse_cons, leNat_append, List.length_reverse, List.length_cons, Nat.pow_succ]
    simp only [leNat]
    ring

theorem beNat_eq (l : Bytes) : beNat l = leNat l.reverse := by
  rw [beNat, beNat_foldl, Nat.zero_mul, Nat.zero_add]

theorem beNat_append (a b : Bytes) : beNat (a ++ b) = beNat a * 256 ^ b.length + beNat b := by
  rw [beNat_eq, beNat_eq, beNat_eq, List.reverse_append, leNat_append, List.length_reverse]
  ring

theorem beNat_cons (h : UInt8) (t : Bytes) : beNat (h :: t) = h.toNat * 256 ^ t.length + beNat t := by
  rw [← List.singleton_append, beNat_append]
  simp [beNat]

theorem beNat_lt (l : Bytes) : beNat l < 256 ^ l.length := by
  rw [beNat_eq]
  have := leNat_lt l.reverse
  simpa using this

theorem natBE_beNat (l : Bytes) : natBE l.length (beNat l) = l := by
  unfold natBE
  rw [beNat_eq]
  have := natLE_leNat l.reverse
  rw [List.length_reverse] at this
  rw [this, List.reverse_reverse]

theorem beNat_natBE (k n : Nat) : beNat (natBE k n) = n % 256 ^ k := by
  rw [beNat_eq]
  unfold natBE
  rw [List.reverse_reverse, leNat_natLE]

end Model
