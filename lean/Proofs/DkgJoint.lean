import Proofs.DkgAgree

/-! The dealer's own instance (inside Joint-Feldman every participant is the dealer of one instance), and the
lifting of the order-independence theorems to Joint-Feldman: `n` parallel Feldman-VSS-Qual instances. At the end the
entry points of the model's API as `step`, `tstep` and `jres` on every instance (`joint_bcast`, `joint_priv`,
`joint_timeout`, `joint_end`). -/

namespace Proofs.DkgCommute
open Model Model.Dkg Proofs.DkgAgree
variable {O : Ops}

/-- what a well-formed complaint of `o` does at the dealer: without an entry, register it and mark it answered (the
    answer is broadcast); an entry not yet `received` gets the mark; a `received` one stays -/
def dU (fc : Option Complaint) : Upd :=
  match fc with
  | none => { entry := some { received := true, answerReceived := true } }
  | some c => if c.received then {} else { entry := some (recv c) }

def dealerUB (s : St O) (o : Nat) (m : Bytes) : Upd :=
  if s.me = o then {}
  else if m.length = 0 then {}
  else if m.headD 0 = tagComplaint then
    (if s.complaintsTimeout then {}
     else match parseC s (m.drop 1) with
       | none => {}
       | some ce => if o = s.dealer then {} else if ce ≠ s.dealer then {} else dU (s.find o))
  else {}

/-- the update a delivery amounts to at the dealer -/
def dealerU (s : St O) : Dl → Upd
  | .priv _ _ => {}
  | .bcast o m => dealerUB s o m

/-- a delivery at the dealer changes nothing, unless it is a complaint of somebody else against the dealer -/
theorem dealerUB_cases {P : Upd → Prop} (s : St O) (o : Nat) (m : Bytes) (same : P {})
    (cmpl : m.headD 0 = tagComplaint → P (dU (s.find o))) : P (dealerUB s o m) := by
  unfold dealerUB
  by_cases h1 : s.me = o
  · rw [if_pos h1]; exact same
  rw [if_neg h1]
  by_cases h2 : m.length = 0
  · rw [if_pos h2]; exact same
  rw [if_neg h2]
  by_cases ht : m.headD 0 = tagComplaint
  · rw [if_pos ht]
    cases s.complaintsTimeout
    · rw [if_neg Bool.false_ne_true]
      cases parseC s (m.drop 1) with
      | none => exact same
      | some ce =>
        dsimp only
        by_cases h3 : o = s.dealer
        · rw [if_pos h3]; exact same
        rw [if_neg h3]
        by_cases h4 : ce ≠ s.dealer
        · rw [if_pos h4]; exact same
        · rw [if_neg h4]; exact cmpl ht
    · rw [if_pos rfl]; exact same
  · rw [if_neg ht]; exact same

theorem dealer_step (s : St O) (hd : s.me = s.dealer) (hdq : s.disqualified = false) (e : Dl) :
    step s e = applyUpd s e.sender (dealerU s e) := by
  have hq : ¬ s.disqualified = true := by rw [hdq]; exact Bool.false_ne_true
  have hod : ∀ {o}, s.me ≠ o → o ≠ s.dealer := fun ho h => ho (hd.trans h.symm)
  cases e with
  | priv o m =>
    exact privBody_cases (P := fun r => r.1 = applyUpd s o {}) s o m (fun _ => rfl) (fun ho => rs_other s o (hod ho) m)
  | bcast o m =>
    -- a message that is not a complaint changes nothing
    have other : m.headD 0 ≠ tagComplaint → s = applyUpd s o (dealerUB s o m) := fun ht =>
      dealerUB_cases (P := fun u => s = applyUpd s o u) s o m rfl (fun h => absurd h ht)
    refine bcastBody_cases (P := fun r => r.1 = applyUpd s o (dealerUB s o m)) s o m ?_ ?_ ?_ ?_ ?_
    · intro h; unfold dealerUB; rw [if_pos (h.resolve_right hq)]; rfl
    · intro ho h
      show (if o = s.dealer then _ else s) = _
      rw [if_neg (hod ho)]
      rcases h with h | h
      · unfold dealerUB; rw [if_neg ho, if_pos h]; rfl
      · exact other h.2.1
    · intro ho ht; rw [rv_other s o (hod ho)]; exact other (by rw [ht]; decide)
    · intro ho hl ht
      unfold dealerUB
      rw [if_neg ho, if_neg hl, if_pos ht, rc_pair]
      cases s.complaintsTimeout
      case true => rfl
      rw [if_neg Bool.false_ne_true, if_neg Bool.false_ne_true]
      cases parseC s (m.drop 1) with
      | none => show (ite (o = s.dealer) _ _ : St O × List Out).1 = applyUpd s o {}; rw [if_neg (hod ho)]; rfl
      | some ce =>
        show (ite (o = s.dealer ∨ ce ≠ s.dealer) _ _ : St O × List Out).1 =
          applyUpd s o (if o = s.dealer then {} else if ce ≠ s.dealer then {} else dU (s.find o))
        rw [if_neg (hod ho)]
        by_cases hce : ce ≠ s.dealer
        · rw [if_pos (Or.inr hce), if_pos hce]; rfl
        rw [if_neg (fun h => h.elim (hod ho) hce), if_neg hce]
        unfold dU
        cases s.find o with
        | none => show (ite (s.me = s.dealer) _ _ : St O × List Out).1 = _; rw [if_pos hd, buildAnswer_setC]; rfl
        | some c =>
          show (ite (c.received = true) _ _ : St O × List Out).1 = applyUpd s o (if c.received = true then {} else _)
          by_cases hr : c.received = true
          · rw [if_pos hr, if_pos hr]; rfl
          · rw [if_neg hr, if_neg hr, if_neg (fun h => h.2.2 hd)]; rfl
    · intro ho ht; rw [ra_pair, if_pos (hod ho)]; exact other (by rw [ht]; decide)

theorem dealerU_plain (s : St O) (e : Dl) : (dealerU s e).disq = none ∧ (dealerU s e).x = none := by
  cases e with
  | priv o m => exact ⟨rfl, rfl⟩
  | bcast o m =>
    refine dealerUB_cases (P := fun u => u.disq = none ∧ u.x = none) s o m ⟨rfl, rfl⟩ (fun _ => ?_)
    unfold dU
    cases s.find o with
    | none => exact ⟨rfl, rfl⟩
    | some c => dsimp only; split <;> exact ⟨rfl, rfl⟩

theorem dealerU_priv (s : St O) (e : Dl) (h : e.isPriv = true) : dealerU s e = {} := by
  cases e with
  | priv o m => rfl
  | bcast o m => cases h

theorem dealerU_stable (s : St O) (K : Nat) (u : Upd) (e : Dl) (h : e.sender ≠ K ∨ u.entry = none) :
    dealerU (applyUpd s K u) e = dealerU s e := by
  cases e with
  | priv o m => rfl
  | bcast o m =>
    show dealerUB (applyUpd s K u) o m = dealerUB s o m
    unfold dealerUB parseC
    rw [applyUpd_me, applyUpd_dealer, applyUpd_size, applyUpd_complaintsTimeout, applyUpd_find_stable s o K u h]

theorem dealer_cfg (s : St O) (K : Nat) (u : Upd) (hd : s.me = s.dealer) : (applyUpd s K u).me = (applyUpd s K u).dealer := by
  rw [applyUpd_me, applyUpd_dealer]; exact hd

theorem dealer_pair (s : St O) (hd : s.me = s.dealer) (e1 e2 : Dl) (hr : reorderable e1 e2) :
    RelP (step (step s e1) e2) (step (step s e2) e1) := by
  by_cases hdq : s.disqualified = true
  · rw [step_disq s e1 hdq, step_disq s e2 hdq, step_disq s e1 hdq]
    exact Or.inr (Equiv.refl' _)
  have hdq' : s.disqualified = false := by simpa using hdq
  have p1 := dealerU_plain s e1
  have p2 := dealerU_plain s e2
  have d1 : (applyUpd s e1.sender (dealerU s e1)).disqualified = false := by rw [applyUpd_disq, p1.1]; exact hdq'
  have d2 : (applyUpd s e2.sender (dealerU s e2)).disqualified = false := by rw [applyUpd_disq, p2.1]; exact hdq'
  -- descriptors are stable under the other delivery
  have hstab : dealerU (applyUpd s e1.sender (dealerU s e1)) e2 = dealerU s e2 ∧
      dealerU (applyUpd s e2.sender (dealerU s e2)) e1 = dealerU s e1 ∧
      (e2.sender ≠ e1.sender ∨ (dealerU s e1).entry = none ∨ (dealerU s e2).entry = none) := by
    rcases hr with h | h
    · exact ⟨dealerU_stable s _ _ e2 (Or.inl (fun e => h e.symm)), dealerU_stable s _ _ e1 (Or.inl h),
        Or.inl (fun e => h e.symm)⟩
    · cases h1 : e1.isPriv with
      | true =>
        have u1 : ∀ t : St O, dealerU t e1 = {} := fun t => dealerU_priv t e1 h1
        rw [u1 s, applyUpd_empty]
        exact ⟨rfl, by rw [u1], Or.inr (Or.inl rfl)⟩
      | false =>
        cases h2 : e2.isPriv with
        | true =>
          have u2 : ∀ t : St O, dealerU t e2 = {} := fun t => dealerU_priv t e2 h2
          rw [u2 s, applyUpd_empty]
          exact ⟨by rw [u2], rfl, Or.inr (Or.inr rfl)⟩
        | false => exact absurd (h1.trans h2.symm) h
  rw [dealer_step s hd hdq' e1, dealer_step s hd hdq' e2,
    dealer_step _ (dealer_cfg s _ _ hd) d1 e2, dealer_step _ (dealer_cfg s _ _ hd) d2 e1, hstab.1, hstab.2.1]
  exact Or.inr (applyUpd_comm s e2.sender e1.sender (dealerU s e1) (dealerU s e2) hstab.2.2 (Or.inl p1.2)
    (by intro b1 b2 h1 _; rw [p1.1] at h1; cases h1))

/-- invariants of one instance at a participant: a receiver's instance, or the participant's own dealing -/
def InvAny (s : St O) : Prop := Inv s ∨ (s.me = s.dealer ∧ KeysNodup s)

/-- the participant's own dealing -/
def DInv (s : St O) : Prop := s.me = s.dealer ∧ KeysNodup s

theorem dinv_step (s : St O) (e : Dl) (h : DInv s) : DInv (step s e) := by
  cases hd : s.disqualified
  · rw [dealer_step s h.1 hd e]
    exact ⟨dealer_cfg s _ _ h.1, keys_applyUpd s _ _ h.2⟩
  · rw [step_disq s e hd]; exact h

theorem dinv_runList (s : St O) (h : DInv s) (l : List Dl) : DInv (runList s l) := runList_keeps dinv_step s h l

theorem dinv_tstep (s : St O) (h : DInv s) : DInv (tstep s) := by
  refine ⟨(tstep_me s).trans (h.1.trans (tstep_dealer s).symm), ?_⟩
  refine tstep_cases (P := KeysNodup) s (fun _ _ => h.2) (fun _ _ => h.2) (fun _ _ _ => h.2) (fun _ _ _ _ => ?_)
    (fun _ _ _ _ => h.2) (fun _ _ _ => h.2) (fun _ _ _ => h.2)
  rw [bc_upd]; exact keys_applyUpd (stFlag s) _ _ h.2

theorem dealerU_equiv {a b : St O} (h : Equiv a b) (hn : KeysNodup a) (e : Dl) : dealerU a e = dealerU b e := by
  cases e with
  | priv o m => rfl
  | bcast o m =>
    show dealerUB a o m = dealerUB b o m
    unfold dealerUB parseC
    rw [h.me, h.complaintsTimeout, h.size, h.dealer, h.find hn o]

theorem relP_dstep {a b : St O} (h : RelP a b) (ia : DInv a) (ib : DInv b) (e : Dl) : RelP (step a e) (step b e) := by
  rcases h with h | h
  · rw [step_disq a e h.1, step_disq b e h.2]; exact Or.inl h
  · cases hd : a.disqualified
    · rw [dealer_step a ia.1 hd e, dealer_step b ib.1 (h.disqualified ▸ hd), dealerU_equiv h ia.2 e]
      exact Or.inr (equiv_applyUpd h _ _)
    · rw [step_disq a e hd, step_disq b e (h.disqualified ▸ hd)]; exact Or.inr h

theorem relP_drunList {a b : St O} (h : RelP a b) (ia : DInv a) (ib : DInv b) (l : List Dl) :
    RelP (runList a l) (runList b l) :=
  runList_relP dinv_step (fun _ _ e h ia ib => relP_dstep h ia ib e) h ia ib l

theorem dround_independent (s : St O) (h : DInv s) (l1 l2 : List Dl) (hs : Swaps l1 l2) :
    RelP (runList s l1) (runList s l2) :=
  swaps_independent dinv_step (fun _ _ e h ia ib => relP_dstep h ia ib e)
    (fun s e1 e2 i hr => dealer_pair s i.1 e1 e2 hr) s h l1 l2 hs

/-- one instance through the three rounds: the state before `End` -/
def runRounds (s : St O) (r1 r2 r3 : List Dl) : St O :=
  runList (tstep (runList (tstep (runList s r1)) r2)) r3

theorem runRounds_independent (s : St O) (inv : InvAny s) (r1 r1' r2 r2' r3 r3' : List Dl)
    (h1 : ∀ c, stream r1 c = stream r1' c) (h2 : ∀ c, stream r2 c = stream r2' c)
    (h3 : ∀ c, stream r3 c = stream r3' c) : RelP (runRounds s r1 r2 r3) (runRounds s r1' r2' r3') := by
  rcases inv with inv | inv
  · exact final_relP s inv r1 r1' r2 r2' r3 r3' h1 h2 h3
  · exact rounds_independent (I := DInv) (fun _ i => i.2) (fun s l i => dinv_runList s i l) dinv_tstep
      (fun _ _ l h ia ib => relP_drunList h ia ib l)
      (fun s l l' i h => dround_independent s i l l' (swaps_of_streams l l' h)) s inv r1 r1' r2 r2' r3 r3' h1 h2 h3

/-- what `JointFeldman.End` computes from the settled instances -/
def jres (size threshold : Nat) (L : List (St O)) : Res :=
  let fv := L.map (fun s => (FvssQ.settle s).1)
  let disq := (fv.filter (·.disqualified)).length
  if disq > threshold ∨ size - disq ≤ threshold then .failure
  else
    let qual := fv.filter (fun s => !s.disqualified)
    let x := qual.foldl (fun acc s => O.addScalar acc s.x) 0
    match O.sumVecs (qual.filterMap (·.vA)) with
    | none => .failure
    | some v => if x = 0 then .failure else if O.groupKeyIsIdentity v then .failure
                else .keys x (O.groupKey v) (O.pubShares v)

theorem cnt_view (M : List (St O)) :
    ((M.map (fun s => (FvssQ.settle s).1)).filter (·.disqualified)).length = ((M.map view).filter (·.1)).length := by
  induction M with
  | nil => rfl
  | cons s t ih =>
    simp only [List.map_cons, List.filter_cons]
    have : (view s).1 = (FvssQ.settle s).1.disqualified := rfl
    rw [this]
    split
    · simp only [List.length_cons, ih]
    · exact ih

theorem fold_view (M : List (St O)) (acc : Nat) :
    ((M.map (fun s => (FvssQ.settle s).1)).filter (fun s => !s.disqualified)).foldl (fun acc s => O.addScalar acc s.x) acc =
      ((M.map view).filter (fun v => !v.1)).foldl (fun acc v => O.addScalar acc v.2.1) acc := by
  induction M generalizing acc with
  | nil => rfl
  | cons s t ih =>
    simp only [List.map_cons, List.filter_cons]
    by_cases hd : (FvssQ.settle s).1.disqualified = true
    · have : (view s).1 = true := hd
      simp only [hd, this, Bool.not_true, Bool.false_eq_true, if_false]
      exact ih acc
    · have hd' : (FvssQ.settle s).1.disqualified = false := by simpa using hd
      have h1 : (view s).1 = false := hd'
      have h2 : (view s).2.1 = (FvssQ.settle s).1.x := by unfold view; simp only [hd', Bool.false_eq_true, if_false]
      simp only [hd', h1, Bool.not_false, if_true, List.foldl_cons, h2]
      exact ih _

theorem vecs_view (M : List (St O)) :
    ((M.map (fun s => (FvssQ.settle s).1)).filter (fun s => !s.disqualified)).filterMap (·.vA) =
      ((M.map view).filter (fun v => !v.1)).filterMap (·.2.2) := by
  induction M with
  | nil => rfl
  | cons s t ih =>
    simp only [List.map_cons, List.filter_cons]
    by_cases hd : (FvssQ.settle s).1.disqualified = true
    · have : (view s).1 = true := hd
      simp only [hd, this, Bool.not_true, Bool.false_eq_true, if_false]
      exact ih
    · have hd' : (FvssQ.settle s).1.disqualified = false := by simpa using hd
      have h1 : (view s).1 = false := hd'
      have h2 : (view s).2.2 = (FvssQ.settle s).1.vA := by unfold view; simp only [hd', Bool.false_eq_true, if_false]
      simp only [hd', h1, Bool.not_false, if_true, List.filterMap_cons, h2, ih]

theorem jres_view (size threshold : Nat) (L L' : List (St O)) (h : L.map view = L'.map view) :
    jres size threshold L = jres size threshold L' := by
  unfold jres
  simp only []
  rw [cnt_view L, cnt_view L', fold_view L 0, fold_view L' 0, vecs_view L, vecs_view L', h]

/-- **Joint-Feldman: the result of `End` does not depend on the delivery order within the rounds**: every
    instance (the participant's own dealing and the `n-1` dealings it receives) sees the same deliveries; any two
    orders with the same stream per sender and channel give the same verdict, group key, key shares and private
    share -/
theorem joint_order_independent (size threshold : Nat) (L : List (St O)) (hinv : ∀ s ∈ L, InvAny s)
    (r1 r1' r2 r2' r3 r3' : List Dl) (h1 : ∀ c, stream r1 c = stream r1' c) (h2 : ∀ c, stream r2 c = stream r2' c)
    (h3 : ∀ c, stream r3 c = stream r3' c) :
    jres size threshold (L.map (fun s => runRounds s r1 r2 r3)) =
      jres size threshold (L.map (fun s => runRounds s r1' r2' r3')) := by
  apply jres_view
  rw [List.map_map, List.map_map]
  apply List.map_congr_left
  intro s hs
  exact view_relP (runRounds_independent s (hinv s hs) r1 r1' r2 r2' r3 r3' h1 h2 h3)

theorem badIndex_lt {o n : Nat} (h : o < n) : badIndex n (o : Int) = false :=
  Bool.or_eq_false_iff.2 ⟨decide_eq_false (by omega), decide_eq_false (by omega)⟩

/-- on a running instance the API calls are `step` and `tstep`, with the outputs of the bodies -/
theorem handleBroadcast_ok (s : St O) (o : Nat) (m : Bytes) (hr : s.running = true) (ho : o < s.size) :
    FvssQ.handleBroadcast s o m = (step s (.bcast o m), (FvssQ.bcastBody s o m).2, .ok) := by
  unfold FvssQ.handleBroadcast
  rw [hr, Bool.not_true, if_neg Bool.false_ne_true, badIndex_lt ho, if_neg Bool.false_ne_true, Int.toNat_natCast]
  rfl

theorem handlePrivate_ok (s : St O) (o : Nat) (m : Bytes) (hr : s.running = true) (ho : o < s.size) :
    FvssQ.handlePrivate s o m = (step s (.priv o m), (FvssQ.privBody s o m).2, .ok) := by
  unfold FvssQ.handlePrivate
  rw [hr, Bool.not_true, if_neg Bool.false_ne_true, badIndex_lt ho, if_neg Bool.false_ne_true, Int.toNat_natCast]
  rfl

theorem nextTimeout_ok (s : St O) (hr : s.running = true) (hct : s.complaintsTimeout = false) :
    FvssQ.nextTimeout s = (tstep s, (FvssQ.timeoutBody s).2, .ok) := by
  unfold FvssQ.nextTimeout
  rw [hr, hct, Bool.not_true, if_neg Bool.false_ne_true, if_neg Bool.false_ne_true]
  rfl

theorem forAll_map (f : St O → St O × List Out × Res) (L : List (St O)) (h : ∀ s ∈ L, (f s).2.2 = .ok) :
    (Joint.forAll f L).1 = L.map (fun s => (f s).1) ∧ (Joint.forAll f L).2.2 = .ok := by
  induction L with
  | nil => exact ⟨rfl, rfl⟩
  | cons s t ih =>
    have hs := h s List.mem_cons_self
    have ht := ih (fun x hx => h x (List.mem_cons_of_mem _ hx))
    unfold Joint.forAll
    cases hf : f s with
    | mk s' rest =>
      obtain ⟨o, r⟩ := rest
      rw [hf] at hs
      cases hs
      exact ⟨by rw [List.map_cons, hf]; exact congrArg (s' :: ·) ht.1, ht.2⟩

theorem forAll_acts (f : St O → St O × List Out × Res) (g : St O → St O) (L : List (St O))
    (h : ∀ s ∈ L, ∃ o, f s = (g s, o, .ok)) : (Joint.forAll f L).1 = L.map g := by
  rw [(forAll_map f L (fun s hs => by obtain ⟨o, e⟩ := h s hs; rw [e])).1]
  exact List.map_congr_left (fun s hs => by obtain ⟨o, e⟩ := h s hs; rw [e])

theorem joint_bcast (j : JSt O) (o : Nat) (m : Bytes) (hr : j.jointRunning = true)
    (hall : ∀ s ∈ j.fvss, s.running = true ∧ o < s.size) :
    (Joint.handleBroadcast j o m).1.fvss = j.fvss.map (fun s => step s (.bcast o m)) := by
  unfold Joint.handleBroadcast
  rw [hr, Bool.not_true, if_neg Bool.false_ne_true]
  exact forAll_acts _ _ _ (fun s hs => ⟨_, handleBroadcast_ok s o m (hall s hs).1 (hall s hs).2⟩)

theorem joint_priv (j : JSt O) (o : Nat) (m : Bytes) (hr : j.jointRunning = true)
    (hall : ∀ s ∈ j.fvss, s.running = true ∧ o < s.size) :
    (Joint.handlePrivate j o m).1.fvss = j.fvss.map (fun s => step s (.priv o m)) := by
  unfold Joint.handlePrivate
  rw [hr, Bool.not_true, if_neg Bool.false_ne_true]
  exact forAll_acts _ _ _ (fun s hs => ⟨_, handlePrivate_ok s o m (hall s hs).1 (hall s hs).2⟩)

theorem joint_timeout (j : JSt O) (hr : j.jointRunning = true)
    (hall : ∀ s ∈ j.fvss, s.running = true ∧ s.complaintsTimeout = false) :
    (Joint.nextTimeout j).1.fvss = j.fvss.map tstep := by
  unfold Joint.nextTimeout
  rw [hr, Bool.not_true, if_neg Bool.false_ne_true]
  exact forAll_acts _ _ _ (fun s hs => ⟨_, nextTimeout_ok s (hall s hs).1 (hall s hs).2⟩)

theorem joint_end (j : JSt O) (hr : j.jointRunning = true)
    (hall : ∀ s ∈ j.fvss, s.sharesTimeout = true ∧ s.complaintsTimeout = true) :
    (Joint.end_ j).2.2 = jres j.size j.threshold j.fvss := by
  unfold Joint.end_ jres
  rw [if_neg (by simp [hr])]
  have : (j.fvss.any fun s => !s.sharesTimeout || !s.complaintsTimeout) = false := by
    rw [List.any_eq_false]
    intro s hs
    obtain ⟨h1, h2⟩ := hall s hs
    simp [h1, h2]
  rw [if_neg (by simp [this])]
  simp only []
  have hfv : ((j.fvss.map FvssQ.settle).map (·.1)) = j.fvss.map (fun s => (FvssQ.settle s).1) := by
    rw [List.map_map]; rfl
  rw [hfv]
  generalize j.fvss.map (fun s => (FvssQ.settle s).1) = F
  by_cases hc : (F.filter (·.disqualified)).length > j.threshold ∨ j.size - (F.filter (·.disqualified)).length ≤ j.threshold
  · rw [if_pos hc, if_pos hc]
  · rw [if_neg hc, if_neg hc]
    cases O.sumVecs ((F.filter (fun s => !s.disqualified)).filterMap (·.vA)) with
    | none => rfl
    | some v =>
      simp only []
      split
      · rfl
      · split <;> rfl

end Proofs.DkgCommute
