import Proofs.CurveField

/-! A field of the executable model (`Fld F`: operations on representatives) as a representation of a Mathlib field `K`.
The model's curve arithmetic commutes with reading the representatives, so on canonical points it is the arithmetic
of `Proofs/CurveField.lean`: the group law of the curve over `K`. `Proofs/CurveGroup.lean` (`F_p`) and
`Proofs/CurveGroup2.lean` (`F_p²`) are the two instances. -/

namespace Proofs.CurveField
open Model Model.Curve WeierstrassCurve.Affine

/-- The operations return canonical representatives whatever they are given. The inverse is specified apart (`InvOK`):
the model's is right only for moduli below a bound. Nothing is asked of `f.neg`: of the curve arithmetic only `negAff`
calls it, which is not treated here. -/
structure FieldModel (F K : Type) [Field K] where
  f : Fld F
  canon : F → Prop
  φ : F → K
  φ_zero : φ f.zero = 0
  φ_one : φ f.one = 1
  φ_add : ∀ x y, φ (f.add x y) = φ x + φ y
  φ_sub : ∀ x y, φ (f.sub x y) = φ x - φ y
  φ_mul : ∀ x y, φ (f.mul x y) = φ x * φ y
  canon_zero : canon f.zero
  canon_one : canon f.one
  canon_add : ∀ x y, canon (f.add x y)
  canon_sub : ∀ x y, canon (f.sub x y)
  canon_mul : ∀ x y, canon (f.mul x y)
  φ_inj : ∀ {x y}, canon x → canon y → φ x = φ y → x = y
  beq_iff : ∀ x y, f.beq x y = true ↔ x = y

namespace FieldModel

variable {F K : Type} [Field K] (M : FieldModel F K)

def aff : Aff F → Aff K := Option.map (Prod.map M.φ M.φ)

def jac (J : Jac F) : Jac K := ⟨M.φ J.x, M.φ J.y, M.φ J.z⟩

theorem jac_mk (x y z : F) : M.jac ⟨x, y, z⟩ = ⟨M.φ x, M.φ y, M.φ z⟩ := rfl

def canonAff : Aff F → Prop
  | none => True
  | some (x, y) => M.canon x ∧ M.canon y

def canonJac (J : Jac F) : Prop := M.canon J.x ∧ M.canon J.y ∧ M.canon J.z

theorem aff_inj {P Q : Aff F} (hP : M.canonAff P) (hQ : M.canonAff Q) (h : M.aff P = M.aff Q) : P = Q := by
  match P, Q, hP, hQ, h with
  | none, none, _, _, _ => rfl
  | some (x1, y1), some (x2, y2), hP, hQ, h =>
    injection h with h
    injection h with hx hy
    rw [M.φ_inj hP.1 hQ.1 hx, M.φ_inj hP.2 hQ.2 hy]

variable (a b : F)

def C : Params F := ⟨M.f, a, b⟩

theorem canon_addAff {P Q : Aff F} (hP : M.canonAff P) (hQ : M.canonAff Q) : M.canonAff (addAff (M.C a b) P Q) := by
  match P, Q, hP, hQ with
  | none, _, _, hQ => exact hQ
  | some _, none, hP, _ => exact hP
  | some (x1, y1), some (x2, y2), _, _ =>
    simp only [addAff]
    split_ifs
    exacts [trivial, ⟨M.canon_sub _ _, M.canon_sub _ _⟩, ⟨M.canon_sub _ _, M.canon_sub _ _⟩]

theorem canon_fromJac (J : Jac F) : M.canonAff (fromJac (M.C a b) J) := by
  simp only [fromJac]
  split_ifs
  exacts [trivial, ⟨M.canon_mul _ _, M.canon_mul _ _⟩]

theorem canon_toJac {P : Aff F} (hP : M.canonAff P) : M.canonJac (toJac (M.C a b) P) := by
  match P, hP with
  | none, _ => exact ⟨M.canon_one, M.canon_one, M.canon_zero⟩
  | some _, hP => exact ⟨hP.1, hP.2, M.canon_one⟩

theorem canon_dblJac (J : Jac F) : M.canonJac (dblJac (M.C a b) J) := by
  simp only [dblJac]
  split_ifs
  exacts [⟨M.canon_one, M.canon_one, M.canon_zero⟩, ⟨M.canon_sub _ _, M.canon_sub _ _, M.canon_sub _ _⟩]

theorem canon_addJac {P Q : Jac F} (hP : M.canonJac P) (hQ : M.canonJac Q) : M.canonJac (addJac (M.C a b) P Q) := by
  simp only [addJac]
  split_ifs
  exacts [hQ, hP, M.canon_dblJac a b P, ⟨M.canon_one, M.canon_one, M.canon_zero⟩,
    ⟨M.canon_sub _ _, M.canon_sub _ _, M.canon_mul _ _⟩]

variable [DecidableEq K]

theorem beq_eq {x y : F} (hx : M.canon x) (hy : M.canon y) : M.f.beq x y = decide (M.φ x = M.φ y) := by
  rw [Bool.eq_iff_iff, M.beq_iff, decide_eq_true_iff]
  exact ⟨congrArg M.φ, M.φ_inj hx hy⟩

theorem onCurve_aff (P : Aff F) : onCurve (M.C a b) P = onCurve (curve (M.φ a) (M.φ b)) (M.aff P) := by
  match P with
  | none => rfl
  | some (x, y) =>
    simp only [onCurve, aff, Option.map_some, Prod.map_apply, C, curve, ops,
      M.beq_eq (M.canon_mul _ _) (M.canon_add _ _), M.φ_add, M.φ_mul]

theorem onCurve_iff (x y : F) :
    onCurve (M.C a b) (some (x, y)) = true ↔ (weier (M.φ a) (M.φ b)).Equation (M.φ x) (M.φ y) := by
  rw [M.onCurve_aff]
  exact CurveField.onCurve_iff _ _ _ _

theorem jac_toJac (P : Aff F) : M.jac (toJac (M.C a b) P) = toJac (curve (M.φ a) (M.φ b)) (M.aff P) := by
  match P with
  | none => simp only [toJac, jac_mk, aff, Option.map_none, C, curve, ops, M.φ_zero, M.φ_one]
  | some (x, y) =>
    simp only [toJac, jac_mk, aff, Option.map_some, Prod.map_apply, C, curve, ops, M.φ_one]

theorem jac_dblJac {J : Jac F} (hJ : M.canonJac J) :
    M.jac (dblJac (M.C a b) J) = dblJac (curve (M.φ a) (M.φ b)) (M.jac J) := by
  obtain ⟨x, y, z⟩ := J
  simp only [dblJac, jac_mk, C, curve, ops, M.beq_eq hJ.2.2 M.canon_zero, M.beq_eq hJ.2.1 M.canon_zero,
    apply_ite M.jac, M.φ_zero, M.φ_one, M.φ_add, M.φ_sub, M.φ_mul]
  -- what is left to identify, here and where the next three proofs end, are the `Decidable` instances of the tests on
  -- the right, which `simp` leaves folded
  rfl

theorem jac_addJac {P Q : Jac F} (hP : M.canonJac P) (hQ : M.canonJac Q) :
    M.jac (addJac (M.C a b) P Q) = addJac (curve (M.φ a) (M.φ b)) (M.jac P) (M.jac Q) := by
  have hd := M.jac_dblJac a b hP
  obtain ⟨x1, y1, z1⟩ := P
  obtain ⟨x2, y2, z2⟩ := Q
  simp only [C, jac_mk] at hd
  simp only [addJac, jac_mk, C, curve, ops, M.beq_eq hP.2.2 M.canon_zero, M.beq_eq hQ.2.2 M.canon_zero,
    M.beq_eq (M.canon_mul _ _) (M.canon_mul _ _), apply_ite M.jac, hd, M.φ_zero, M.φ_one, M.φ_add, M.φ_sub,
    M.φ_mul]
  rfl

/-- for the model's `powMod` inverse this holds when the modulus is below `2^800` (`powMod` runs on 800 bits of fuel) -/
abbrev InvOK : Prop := ∀ x, M.φ (M.f.inv x) = (M.φ x)⁻¹

section
variable (hi : M.InvOK)
include hi

theorem aff_addAff {P Q : Aff F} (hP : M.canonAff P) (hQ : M.canonAff Q) :
    M.aff (addAff (M.C a b) P Q) = addAff (curve (M.φ a) (M.φ b)) (M.aff P) (M.aff Q) := by
  match P, Q, hP, hQ with
  | none, _, _, _ => rfl
  | some _, none, _, _ => rfl
  | some (x1, y1), some (x2, y2), hP, hQ =>
    simp only [addAff, aff, Option.map_some, Prod.map_apply, C, curve, ops, M.beq_eq hP.1 hQ.1,
      M.beq_eq (M.canon_add _ _) M.canon_zero, apply_ite (Option.map _), Option.map_none,
      M.φ_zero, M.φ_one, M.φ_add, M.φ_sub, M.φ_mul, hi]
    rfl

theorem aff_fromJac {J : Jac F} (hz : M.canon J.z) :
    M.aff (fromJac (M.C a b) J) = fromJac (curve (M.φ a) (M.φ b)) (M.jac J) := by
  obtain ⟨x, y, z⟩ := J
  simp only [fromJac, jac_mk, aff, C, curve, ops, M.beq_eq hz M.canon_zero, apply_ite (Option.map _),
    Option.map_none, Option.map_some, Prod.map_apply, M.φ_zero, M.φ_mul, hi]
  rfl

end

def Valid : Aff F → Prop
  | none => True
  | some (x, y) => M.canon x ∧ M.canon y ∧ onCurve (M.C a b) (some (x, y)) = true

def JValid (J : Jac F) : Prop := M.canon J.x ∧ M.canon J.y ∧ M.canon J.z ∧ M.Valid a b (fromJac (M.C a b) J)

noncomputable def toPoint (P : Aff F) : (weier (M.φ a) (M.φ b)).Point := toPt (M.φ a) (M.φ b) (M.aff P)

theorem valid_iff (P : Aff F) :
    M.Valid a b P ↔ M.canonAff P ∧ onCurve (curve (M.φ a) (M.φ b)) (M.aff P) = true := by
  rw [← M.onCurve_aff]
  match P with
  | none => exact ⟨fun _ => ⟨trivial, rfl⟩, fun _ => trivial⟩
  | some (x, y) => exact and_assoc.symm

omit [DecidableEq K] in
theorem JValid.canonJac {J : Jac F} (hJ : M.JValid a b J) : M.canonJac J := ⟨hJ.1, hJ.2.1, hJ.2.2.1⟩

theorem toPoint_inj (hΔ : (weier (M.φ a) (M.φ b)).Δ ≠ 0) (P Q : Aff F) (hP : M.Valid a b P) (hQ : M.Valid a b Q)
    (h : M.toPoint a b P = M.toPoint a b Q) : P = Q := by
  rw [valid_iff] at hP hQ
  exact M.aff_inj hP.1 hQ.1 (toPt_inj _ _ hΔ hP.2 hQ.2 h)

variable (hi : M.InvOK)
include hi

theorem addAff_eq (hΔ : (weier (M.φ a) (M.φ b)).Δ ≠ 0) (P Q : Aff F) (hP : M.Valid a b P) (hQ : M.Valid a b Q) :
    M.Valid a b (addAff (M.C a b) P Q) ∧
      M.toPoint a b (addAff (M.C a b) P Q) = M.toPoint a b P + M.toPoint a b Q := by
  rw [valid_iff] at hP hQ ⊢
  unfold toPoint
  rw [M.aff_addAff a b hi hP.1 hQ.1]
  have h := addAff_toPt _ _ hΔ _ _ hP.2 hQ.2
  exact ⟨⟨M.canon_addAff a b hP.1 hQ.1, h.1⟩, h.2⟩

theorem fromJac_dblJac (h2 : (2 : K) ≠ 0) {J : Jac F} (hJ : M.canonJac J) :
    fromJac (M.C a b) (dblJac (M.C a b) J) = addAff (M.C a b) (fromJac (M.C a b) J) (fromJac (M.C a b) J) := by
  have hf := M.canon_fromJac a b J
  apply M.aff_inj (M.canon_fromJac a b _) (M.canon_addAff a b hf hf)
  rw [M.aff_fromJac a b hi (M.canon_dblJac a b J).2.2, M.jac_dblJac a b hJ, CurveField.fromJac_dblJac _ _ h2,
    M.aff_addAff a b hi hf hf, M.aff_fromJac a b hi hJ.2.2]

theorem fromJac_addJac (h2 : (2 : K) ≠ 0) {P Q : Jac F} (hP : M.JValid a b P) (hQ : M.JValid a b Q) :
    fromJac (M.C a b) (addJac (M.C a b) P Q) = addAff (M.C a b) (fromJac (M.C a b) P) (fromJac (M.C a b) Q) := by
  have cP := hP.canonJac
  have cQ := hQ.canonJac
  have vP := ((M.valid_iff a b _).1 hP.2.2.2).2
  have vQ := ((M.valid_iff a b _).1 hQ.2.2.2).2
  rw [M.aff_fromJac a b hi cP.2.2] at vP
  rw [M.aff_fromJac a b hi cQ.2.2] at vQ
  have hfP := M.canon_fromJac a b P
  have hfQ := M.canon_fromJac a b Q
  apply M.aff_inj (M.canon_fromJac a b _) (M.canon_addAff a b hfP hfQ)
  rw [M.aff_fromJac a b hi (M.canon_addJac a b cP cQ).2.2, M.jac_addJac a b cP cQ,
    CurveField.fromJac_addJac _ _ h2 _ _ vP vQ, M.aff_addAff a b hi hfP hfQ, M.aff_fromJac a b hi cP.2.2,
    M.aff_fromJac a b hi cQ.2.2]

theorem toJac_valid {P : Aff F} (hP : M.Valid a b P) :
    M.JValid a b (toJac (M.C a b) P) ∧ fromJac (M.C a b) (toJac (M.C a b) P) = P := by
  have cP := ((M.valid_iff a b P).1 hP).1
  have cJ := M.canon_toJac a b cP
  have e : fromJac (M.C a b) (toJac (M.C a b) P) = P := by
    apply M.aff_inj (M.canon_fromJac a b _) cP
    rw [M.aff_fromJac a b hi cJ.2.2, M.jac_toJac, fromJac_toJac]
  exact ⟨⟨cJ.1, cJ.2.1, cJ.2.2, by rw [e]; exact hP⟩, e⟩

section group

variable (hΔ : (weier (M.φ a) (M.φ b)).Δ ≠ 0) (h2 : (2 : K) ≠ 0)
include hΔ h2

theorem jvalid_add {P Q : Jac F} (hP : M.JValid a b P) (hQ : M.JValid a b Q) :
    M.JValid a b (addJac (M.C a b) P Q) ∧
      M.toPoint a b (fromJac (M.C a b) (addJac (M.C a b) P Q)) =
        M.toPoint a b (fromJac (M.C a b) P) + M.toPoint a b (fromJac (M.C a b) Q) := by
  have c := M.canon_addJac a b hP.canonJac hQ.canonJac
  have g := M.addAff_eq a b hi hΔ _ _ hP.2.2.2 hQ.2.2.2
  rw [← M.fromJac_addJac a b hi h2 hP hQ] at g
  exact ⟨⟨c.1, c.2.1, c.2.2, g.1⟩, g.2⟩

theorem jvalid_dbl {P : Jac F} (hP : M.JValid a b P) :
    M.JValid a b (dblJac (M.C a b) P) ∧
      M.toPoint a b (fromJac (M.C a b) (dblJac (M.C a b) P)) = 2 • M.toPoint a b (fromJac (M.C a b) P) := by
  have c := M.canon_dblJac a b P
  have g := M.addAff_eq a b hi hΔ _ _ hP.2.2.2 hP.2.2.2
  rw [← M.fromJac_dblJac a b hi h2 hP.canonJac, ← two_nsmul] at g
  exact ⟨⟨c.1, c.2.1, c.2.2, g.1⟩, g.2⟩

theorem mulJacAux_eq : ∀ (fuel k : ℕ) (base acc : Jac F), k < 2 ^ fuel → M.JValid a b base → M.JValid a b acc →
    M.JValid a b (mulJacAux (M.C a b) fuel k base acc) ∧
      M.toPoint a b (fromJac (M.C a b) (mulJacAux (M.C a b) fuel k base acc)) =
        M.toPoint a b (fromJac (M.C a b) acc) + k • M.toPoint a b (fromJac (M.C a b) base) := by
  intro fuel
  induction fuel with
  | zero =>
    intro k base acc hk _ hacc
    have : k = 0 := by omega
    subst this
    exact ⟨hacc, by simp [mulJacAux]⟩
  | succ fuel ih =>
    intro k base acc hk hbase hacc
    unfold mulJacAux
    by_cases hk0 : k = 0
    · rw [if_pos hk0]
      subst hk0
      exact ⟨hacc, by simp⟩
    · rw [if_neg hk0]
      have hd := M.jvalid_dbl a b hi hΔ h2 hbase
      have hk2 : k / 2 < 2 ^ fuel := by
        rw [Nat.div_lt_iff_lt_mul (by decide)]; rw [pow_succ] at hk; exact hk
      by_cases hodd : k % 2 = 1
      · rw [if_pos hodd]
        have ha := M.jvalid_add a b hi hΔ h2 hacc hbase
        have r := ih (k / 2) _ _ hk2 hd.1 ha.1
        refine ⟨r.1, ?_⟩
        rw [r.2, ha.2, hd.2, smul_smul, add_assoc]
        congr 1
        have : k = 1 + k / 2 * 2 := by omega
        conv_rhs => rw [this, add_smul, one_smul]
      · rw [if_neg hodd]
        have r := ih (k / 2) _ _ hk2 hd.1 hacc
        refine ⟨r.1, ?_⟩
        rw [r.2, hd.2, smul_smul]
        congr 2
        omega

theorem mul_eq (k : ℕ) (hk : k < 2 ^ 800) (P : Aff F) (hP : M.Valid a b P) :
    M.Valid a b (mul (M.C a b) k P) ∧ M.toPoint a b (mul (M.C a b) k P) = k • M.toPoint a b P := by
  have t1 := M.toJac_valid a b hi hP
  have t0 := M.toJac_valid a b hi (P := none) trivial
  have r := M.mulJacAux_eq a b hi hΔ h2 800 k _ _ hk t1.1 t0.1
  unfold mul
  refine ⟨r.1.2.2.2, ?_⟩
  rw [r.2, t1.2, t0.2]
  exact zero_add _

theorem sum_eq (ps : List (Aff F)) (hps : ∀ P ∈ ps, M.Valid a b P) :
    M.Valid a b (sum (M.C a b) ps) ∧ M.toPoint a b (sum (M.C a b) ps) = (ps.map (M.toPoint a b)).sum := by
  have t0 := M.toJac_valid a b hi (P := none) trivial
  have key : ∀ (l : List (Aff F)) (acc : Jac F), (∀ P ∈ l, M.Valid a b P) → M.JValid a b acc →
      M.JValid a b (l.foldl (fun acc P => addJac (M.C a b) acc (toJac (M.C a b) P)) acc) ∧
        M.toPoint a b (fromJac (M.C a b) (l.foldl (fun acc P => addJac (M.C a b) acc (toJac (M.C a b) P)) acc)) =
          M.toPoint a b (fromJac (M.C a b) acc) + (l.map (M.toPoint a b)).sum := by
    intro l
    induction l with
    | nil => intro acc _ hacc; exact ⟨hacc, by simp⟩
    | cons Q t ih =>
      intro acc hl hacc
      have tq := M.toJac_valid a b hi (hl Q List.mem_cons_self)
      have ha := M.jvalid_add a b hi hΔ h2 hacc tq.1
      have r := ih _ (fun P hP => hl P (List.mem_cons_of_mem _ hP)) ha.1
      refine ⟨r.1, ?_⟩
      rw [List.foldl_cons, r.2, ha.2, tq.2, List.map_cons, List.sum_cons, add_assoc]
  have r := key ps _ hps t0.1
  unfold sum
  refine ⟨r.1.2.2.2, ?_⟩
  rw [r.2, t0.2]
  exact zero_add _

theorem sum_perm (ps qs : List (Aff F)) (hps : ∀ P ∈ ps, M.Valid a b P) (h : ps.Perm qs) :
    sum (M.C a b) ps = sum (M.C a b) qs := by
  have s1 := M.sum_eq a b hi hΔ h2 ps hps
  have s2 := M.sum_eq a b hi hΔ h2 qs fun P hP => hps P (h.mem_iff.2 hP)
  apply M.toPoint_inj a b hΔ _ _ s1.1 s2.1
  rw [s1.2, s2.2]
  exact (h.map _).sum_eq

end group

end FieldModel

end Proofs.CurveField
