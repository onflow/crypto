import Proofs.PowMod
import Mathlib.Tactic.LinearCombination

/-! The prime-field operations of `Model.Fp` on canonical representatives, read in `ZMod p`: casts, bounds,
the sign of the ZCash format, the square root for `p ≡ 3 (mod 4)`, and a test for "not a cube". -/

namespace Proofs.Fp
open Model Proofs.PowMod

variable (p : ℕ) [hp : Fact p.Prime]

theorem c_add (x y : ℕ) : ((Fp.add p x y : ℕ) : ZMod p) = (x : ZMod p) + y := by
  rw [Fp.add, ZMod.natCast_mod, Nat.cast_add]

theorem c_mul (x y : ℕ) : ((Fp.mul p x y : ℕ) : ZMod p) = (x : ZMod p) * y := by
  rw [Fp.mul, ZMod.natCast_mod, Nat.cast_mul]

theorem c_neg (x : ℕ) : ((Fp.neg p x : ℕ) : ZMod p) = -(x : ZMod p) := by
  rw [Fp.neg, ZMod.natCast_mod, Nat.cast_sub (Nat.mod_lt x hp.out.pos).le, ZMod.natCast_self, ZMod.natCast_mod,
    zero_sub]

theorem c_sub (x y : ℕ) : ((Fp.sub p x y : ℕ) : ZMod p) = (x : ZMod p) - y := by
  rw [Fp.sub, ZMod.natCast_mod, Nat.cast_add, Nat.cast_sub (Nat.mod_lt y hp.out.pos).le, ZMod.natCast_self,
    ZMod.natCast_mod, zero_sub, sub_eq_add_neg]

theorem c_inv (h2 : 2 < p) (hb : p < 2 ^ 800) (x : ℕ) : ((Fp.inv p x : ℕ) : ZMod p) = (x : ZMod p)⁻¹ :=
  powMod_inv p h2 hb x

theorem lt_add (x y : ℕ) : Fp.add p x y < p := Nat.mod_lt _ hp.out.pos
theorem lt_sub (x y : ℕ) : Fp.sub p x y < p := Nat.mod_lt _ hp.out.pos
theorem lt_mul (x y : ℕ) : Fp.mul p x y < p := Nat.mod_lt _ hp.out.pos
theorem lt_neg (x : ℕ) : Fp.neg p x < p := Nat.mod_lt _ hp.out.pos

theorem cast_inj {x y : ℕ} (hx : x < p) (hy : y < p) : (x : ZMod p) = y ↔ x = y :=
  ⟨fun h => Nat.ModEq.eq_of_lt_of_lt ((ZMod.natCast_eq_natCast_iff _ _ _).1 h) hx hy, fun h => h ▸ rfl⟩

theorem cast_eq_zero {x : ℕ} (hx : x < p) : (x : ZMod p) = 0 ↔ x = 0 := by
  rw [← Nat.cast_zero, cast_inj p hx hp.out.pos]

theorem two_ne_zero_of_lt (h2 : 2 < p) : (2 : ZMod p) ≠ 0 := by
  rw [← Nat.cast_ofNat, Ne, cast_eq_zero p h2]
  decide

theorem neg_neg {y : ℕ} (hy : y < p) : Fp.neg p (Fp.neg p y) = y := by
  rw [← cast_inj p (lt_neg p _) hy, c_neg, c_neg, _root_.neg_neg]

theorem neg_ne_zero {y : ℕ} (h0 : y ≠ 0) (hy : y < p) : Fp.neg p y ≠ 0 := by
  rw [Ne, ← cast_eq_zero p (lt_neg p y), c_neg, neg_eq_zero, cast_eq_zero p hy]
  exact h0

theorem neg_sq (y : ℕ) : Fp.neg p y * Fp.neg p y % p = y * y % p := by
  refine (ZMod.natCast_eq_natCast_iff _ _ _).1 ?_
  rw [Nat.cast_mul, c_neg, Nat.cast_mul, neg_mul_neg]

omit hp in
theorem sign_le (y : ℕ) : Fp.sign p y ≤ 1 := by unfold Fp.sign; split <;> decide

omit hp in
theorem neg_eq_sub {y : ℕ} (h0 : y ≠ 0) (hy : y < p) : Fp.neg p y = p - y := by
  rw [Fp.neg, Nat.mod_eq_of_lt hy, Nat.mod_eq_of_lt (Nat.sub_lt (Nat.zero_lt_of_lt hy) (Nat.pos_of_ne_zero h0))]

omit hp in
theorem sign_neg (hodd : p % 2 = 1) {y : ℕ} (h0 : y ≠ 0) (hy : y < p) :
    Fp.sign p (Fp.neg p y) = 1 - Fp.sign p y := by
  have hp : 2 * (p / 2) + 1 = p := by
    rw [Nat.two_mul_odd_div_two hodd]; exact Nat.sub_add_cancel (Nat.zero_lt_of_lt hy)
  have hk : (p - 1) / 2 = p / 2 := by rw [← Nat.two_mul_odd_div_two hodd, Nat.mul_div_cancel_left _ Nat.two_pos]
  rw [neg_eq_sub p h0 hy, Fp.sign, Fp.sign, hk]
  generalize p / 2 = k at hp ⊢
  subst hp
  have key : 2 * k + 1 - y > k ↔ ¬ y > k := by
    rw [gt_iff_lt, Nat.lt_sub_iff_add_lt, not_lt, two_mul, Nat.add_assoc, Nat.add_lt_add_iff_left, Nat.lt_succ_iff]
  by_cases h : y > k
  · rw [if_pos h, if_neg (key.not.2 (not_not.2 h))]
  · rw [if_neg h, if_pos (key.2 h)]

omit hp in
theorem parity_neg (hodd : p % 2 = 1) {y : ℕ} (h0 : y ≠ 0) (hy : y < p) : Fp.neg p y % 2 = 1 - y % 2 := by
  rw [neg_eq_sub p h0 hy]
  rcases Nat.mod_two_eq_zero_or_one y with h | h <;> rw [h]
  · exact Nat.odd_iff.1 ((Nat.odd_sub hy.le).2 (iff_of_true (Nat.odd_iff.2 hodd) (Nat.even_iff.2 h)))
  · exact Nat.not_odd_iff.1 fun ho =>
      Nat.not_even_iff.2 h (((Nat.odd_sub hy.le).1 ho).1 (Nat.odd_iff.2 hodd))
/-! The decoders reject in a chain of conditionals (`of_ite_ne` peels one off an accepting run), then take a square
root `y` and return `-y` when the sign `sg y` differs from the bit `s` of the encoding; `sg` is `Fp.sign`, `Fp2.sign`
or the parity. -/

omit hp in
theorem of_ite_ne {α : Type} {c : Prop} [Decidable c] {e x v : α} (h : (if c then e else x) = v) (he : e ≠ v) :
    ¬ c ∧ x = v :=
  if hc : c then absurd ((if_pos hc).symm.trans h) he else ⟨hc, (if_neg hc).symm.trans h⟩

omit hp in
theorem mod_two_le (n : ℕ) : n % 2 ≤ 1 := Nat.lt_succ_iff.1 (Nat.mod_lt _ Nat.two_pos)

omit hp in
theorem sign_pick {α : Type} (sg : α → ℕ) (neg : α → α) {y : α} {s : ℕ} (hs : s ≤ 1) (hle : sg y ≤ 1)
    (hneg : sg (neg y) = 1 - sg y) : sg (if sg y ≠ s then neg y else y) = s := by
  split <;> omega

omit hp in
theorem pick_eq {α : Type} (sg : α → ℕ) (neg : α → α) {y y0 : α} (h : y0 = y ∨ y0 = neg y) (hle : sg y ≤ 1)
    (hneg : sg (neg y) = 1 - sg y) (hnn : neg (neg y) = y) : (if sg y0 ≠ sg y then neg y0 else y0) = y := by
  rcases h with rfl | rfl
  · rw [if_neg (by simp)]
  · rw [if_pos (by omega), hnn]

omit hp in
theorem sqrt?_eq_some {a y : ℕ} :
    Fp.sqrt? p a = some y ↔ powMod a ((p + 1) / 4) p = y ∧ y * y % p = a % p := by
  unfold Fp.sqrt?
  dsimp only
  split
  · next h => exact ⟨fun e => ⟨Option.some.inj e, Option.some.inj e ▸ h⟩, fun e => congrArg some e.1⟩
  · next h => exact ⟨nofun, fun e => absurd (e.1 ▸ e.2) h⟩

theorem sqrt_some {a y : ℕ} (h : Fp.sqrt? p a = some y) : y < p ∧ y * y % p = a % p := by
  obtain ⟨rfl, hyy⟩ := (sqrt?_eq_some p).1 h
  exact ⟨powModAux_lt p hp.out.pos _ _ _ _ (Nat.mod_lt _ hp.out.pos), hyy⟩

theorem sqrt_of_cast_sq (h4 : p % 4 = 3) (hb : p < 2 ^ 800) {a : ℕ} {z : ZMod p} (hz : z ≠ 0) (h : (a : ZMod p) = z ^ 2) :
    ∃ x, Fp.sqrt? p a = some x ∧ (x : ZMod p) ^ 2 = z ^ 2 := by
  have he : 2 * ((p + 1) / 4 * 2) = p - 1 + 2 :=
    calc 2 * ((p + 1) / 4 * 2) = (p + 1) / 4 * 4 := by rw [Nat.mul_comm, Nat.mul_assoc]
      _ = p + 1 := Nat.div_mul_cancel (Nat.dvd_of_mod_eq_zero (by rw [Nat.add_mod, h4]))
      _ = p - 1 + 2 := (congrArg (· + 1) (Nat.sub_add_cancel hp.out.pos)).symm
  have hxx : ((powMod a ((p + 1) / 4) p : ℕ) : ZMod p) ^ 2 = z ^ 2 := by
    rw [powMod_cast a _ p hp.out.one_lt ((Nat.div_lt_self p.succ_pos (by decide)).trans_le hb), h, ← pow_mul,
      ← pow_mul, he, pow_add, ZMod.pow_card_sub_one_eq_one hz, one_mul]
  refine ⟨_, (sqrt?_eq_some p).2 ⟨rfl, (ZMod.natCast_eq_natCast_iff _ _ _).1 ?_⟩, hxx⟩
  rw [Nat.cast_mul, ← pow_two, hxx, h]

theorem sqrt_of_square (h4 : p % 4 = 3) (hb : p < 2 ^ 800) {a y : ℕ} (hy0 : y ≠ 0) (hy : y < p)
    (h : y * y % p = a) : ∃ y0, Fp.sqrt? p a = some y0 ∧ (y0 = y ∨ y0 = Fp.neg p y) := by
  obtain ⟨x, hs, hxy⟩ := sqrt_of_cast_sq p h4 hb (a := a) (z := y) (mt (cast_eq_zero p hy).1 hy0)
    (by rw [← h, ZMod.natCast_mod, Nat.cast_mul, pow_two])
  have hx := (sqrt_some p hs).1
  rw [sq_eq_sq_iff_eq_or_eq_neg, ← c_neg, cast_inj p hx hy, cast_inj p hx (lt_neg p y)] at hxy
  exact ⟨x, hs, hxy⟩

theorem sqrt_none {a : ℕ} (h : ∀ w : ZMod p, w ^ 2 ≠ (a : ZMod p)) : Fp.sqrt? p a = none := by
  cases hs : Fp.sqrt? p a with
  | none => rfl
  | some x =>
    refine absurd ?_ (h x)
    have := congrArg (Nat.cast (R := ZMod p)) (sqrt_some p hs).2
    rwa [ZMod.natCast_mod, ZMod.natCast_mod, Nat.cast_mul, ← pow_two] at this

theorem not_cube (hb : p < 2 ^ 800) {c : ℕ} (h3 : (p - 1) % 3 = 0) (h0 : c % p ≠ 0)
    (hc : powMod c ((p - 1) / 3) p ≠ 1) (t : ZMod p) : t ^ 3 ≠ (c : ZMod p) := by
  intro h
  have ht : t ≠ 0 := by
    rintro rfl
    rw [zero_pow (by norm_num), eq_comm, ZMod.natCast_eq_zero_iff] at h
    exact h0 (Nat.mod_eq_zero_of_dvd h)
  rw [powMod_eq c _ p hp.out.one_lt (by omega), Ne, pow_mod_eq_one_iff hp.out.one_lt, ← h, ← pow_mul,
    Nat.mul_div_cancel' (Nat.dvd_of_mod_eq_zero h3)] at hc
  exact hc (ZMod.pow_card_sub_one_eq_one ht)

end Proofs.Fp
