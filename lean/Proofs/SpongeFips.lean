import Model.Hash

/-! The reference digest of the C13 theorems (`Sponge.refHash`: absorb the full blocks of the message, then one
padded block built from the tail) is the sponge construction as FIPS 202 writes it (`KeccakF.spongeRef`: pad the
whole message with `pad10*1`, absorb every block of the padded message, squeeze), for every rate, domain byte,
message and every output length up to the rate. -/

namespace Proofs.SpongeFips
open Model

/-- what `padBlock` does to a block given as its first `rate - 1` bytes and its last byte -/
theorem take_getD_snoc (c : Bytes) (x : UInt8) {n : Nat} (hn : n = c.length) :
    (c ++ [x]).take n ++ [(c ++ [x]).getD n 0 ^^^ 0x80] = c ++ [x ^^^ 0x80] := by
  subst hn; simp

theorem pad_last_block (rate : Nat) (ds : UInt8) (t : Bytes) (ht : t.length < rate) :
    (t ++ KeccakF.padTail rate ds t.length).take rate = Sponge.padBlock rate ds t := by
  unfold KeccakF.padTail Sponge.padBlock
  simp only [Nat.mod_eq_of_lt ht]
  cases hz : rate - 1 - t.length with
  | zero =>
    have e : t ++ [ds] ++ zeros (rate - (t.length + 1)) = t ++ [ds] := by
      simp [zeros, show rate - (t.length + 1) = 0 by omega]
    rw [e, take_getD_snoc t ds (by omega), List.take_of_length_le (by simp; omega)]
  | succ z =>
    have e : t ++ [ds] ++ zeros (rate - (t.length + 1)) = (t ++ ds :: List.replicate z 0) ++ [0] := by
      simp [zeros, show rate - (t.length + 1) = z + 1 by omega, List.replicate_succ']
    rw [e, take_getD_snoc _ 0 (by simp; omega), List.take_of_length_le (by simp; omega)]
    simp

theorem padTail_sub (rate : Nat) (ds : UInt8) {n : Nat} (h : rate ≤ n) :
    KeccakF.padTail rate ds (n - rate) = KeccakF.padTail rate ds n := by
  unfold KeccakF.padTail
  rw [← Nat.mod_eq_sub_mod h]

theorem absorb_pad (rate : Nat) (hr : 0 < rate) (ds : UInt8) :
    ∀ (fuel : Nat) (a : KeccakF.State) (m : Bytes), m.length < fuel →
      KeccakF.absorb rate a (m.length / rate + 1) (m ++ KeccakF.padTail rate ds m.length) =
        (fun (r : KeccakF.State × Bytes) =>
          KeccakF.keccakF1600 (KeccakF.xorBlock r.1 (Sponge.padBlock rate ds r.2)))
          (Sponge.absorbAll (fun a block => KeccakF.keccakF1600 (KeccakF.xorBlock a block)) rate fuel a m) := by
  intro fuel
  induction fuel with
  | zero => intro a m h; omega
  | succ fuel ih =>
    intro a m hlt
    rw [Sponge.absorbAll]
    split
    · next hm =>
      rw [Nat.div_eq_of_lt hm, Nat.zero_add, KeccakF.absorb, KeccakF.absorb, pad_last_block rate ds m hm]
    · next hm =>
      have hle : rate ≤ m.length := by omega
      have := ih (KeccakF.keccakF1600 (KeccakF.xorBlock a (m.take rate))) (m.drop rate) (by simp; omega)
      rw [List.length_drop, padTail_sub rate ds hle] at this
      rw [Nat.div_eq_sub_div hr hle, KeccakF.absorb, List.take_append_of_le_length hle,
        List.drop_append_of_le_length hle, this]

/-- **`refHash` is FIPS 202's sponge** (pad, absorb, squeeze) on the Keccak parameters of the package, for every
    rate > 0, every domain byte, every message, and every output length up to the rate (one squeeze block) -/
theorem refHash_eq_spongeRef (rate : Nat) (hr : 0 < rate) (ds : UInt8) (outLen : Nat) (ho : outLen ≤ rate)
    (m : Bytes) :
    Sponge.refHash (Hash.keccakParams rate ds outLen) m = KeccakF.spongeRef rate ds outLen m := by
  unfold KeccakF.spongeRef
  rw [if_neg (by omega)]
  simp only []
  unfold KeccakF.pad
  rw [absorb_pad rate hr ds (m.length + 1) KeccakF.zeroState m (by omega)]
  unfold Sponge.refHash Hash.keccakParams
  simp only []
  unfold KeccakF.squeeze
  rw [if_pos ho]

end Proofs.SpongeFips
