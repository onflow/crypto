import Proofs.EcdsaModel

/-! Exactness of the executable ECDSA verification: under the public key `d • G`, the model accepts `sig` on `h`
exactly when `sig` is what the signing function returns for some nonce - the converse of `sign_verify`. -/

namespace Proofs.EcdsaExact
open Model Model.Curve Proofs.CurveGroup Proofs.CurveInst Proofs.EcdsaModel

variable {S : Ecdsa.CurveSpec} {a b : ℕ} [Fact (Nat.Prime S.p)] [hn : Fact (Nat.Prime S.n)]

theorem split64 (sig : Bytes) (h : sig.length = 64) :
    natBE 32 (beNat (sig.take 32)) ++ natBE 32 (beNat (sig.drop 32)) = sig := by
  have h1 : (sig.take 32).length = 32 := by rw [List.length_take]; omega
  have h2 : (sig.drop 32).length = 32 := by rw [List.length_drop]; omega
  have e1 := Model.natBE_beNat (sig.take 32)
  have e2 := Model.natBE_beNat (sig.drop 32)
  rw [h1] at e1
  rw [h2] at e2
  rw [e1, e2, List.take_append_drop]

/-- **verify ⇒ signed with some nonce**: an accepted signature under `d • G` is the output of the signing function
    for the nonce `k = (e + r d) / s mod n` -/
theorem verify_sign (G : Good S a b) (d : ℕ) (hd : d < S.n) (h sig : Bytes) (Q : ℕ × ℕ)
    (hQ : Ecdsa.publicKeyOf S d = some Q) (hv : Ecdsa.verifyHash S Q h sig = true) :
    ∃ k, 0 < k ∧ k < S.n ∧ Ecdsa.signWith S d k h = some sig := by
  obtain ⟨hl, hr0, hs0, hrn, hsn, x, y, hR, hx⟩ := (verifyHash_iff S Q h sig).1 hv
  rw [G.verifyPoint_eq hd hQ] at hR
  obtain ⟨k, hk⟩ : ∃ k, k = (beNat (h.take 32) + beNat (sig.take 32) * d) % S.n *
    powMod (beNat (sig.drop 32)) (S.n - 2) S.n % S.n := ⟨_, rfl⟩
  rw [← hk] at hR
  have hkn : k < S.n := hk ▸ Nat.mod_lt _ G.n_pos
  have hk0 : k ≠ 0 := by
    rintro rfl
    rw [G.mul 0 (by positivity) S.g G.hg, zero_nsmul] at hR
    cases hR
  refine ⟨k, Nat.pos_of_ne_zero hk0, hkn, (signWith_eq_some_iff S d k h sig).2 ⟨x, y, hR, ?_⟩⟩
  have hs : sigS S d k (x % S.n) h = beNat (sig.drop 32) := by
    rw [hx]
    unfold sigS
    rw [Nat.mul_comm]
    exact G.inv_swap hsn (by rw [Nat.mul_comm]; exact hk) hk0
  rw [hs, hx]
  exact ⟨hr0, hs0, (split64 sig hl).symm⟩

/-- **exactness**: under the public key `d • G`, the accepted signatures on `h` are exactly the outputs of the signing
    function over all nonces -/
theorem verify_iff_signed (G : Good S a b) (d : ℕ) (hd : d < S.n) (h sig : Bytes) (Q : ℕ × ℕ)
    (hQ : Ecdsa.publicKeyOf S d = some Q) :
    Ecdsa.verifyHash S Q h sig = true ↔ ∃ k, 0 < k ∧ k < S.n ∧ Ecdsa.signWith S d k h = some sig :=
  ⟨verify_sign G d hd h sig Q hQ, fun ⟨k, _, hk, hs⟩ => sign_verify G d k hd hk h sig Q hQ hs⟩

end Proofs.EcdsaExact
#print axioms Proofs.EcdsaExact.verify_iff_signed
