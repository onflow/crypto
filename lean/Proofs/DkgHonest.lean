import Proofs.DkgShare
import Mathlib.Data.Finset.Card

/-! An honest dealer is never disqualified: whatever the other participants send and in whatever order, a receiver
that gets the dealer's vector and its share in the first round, and a valid answer to each of the at most `threshold`
complaints before `End`, ends with the dealer's keys. -/

namespace Proofs.DkgCommute
open Model Model.Dkg
variable {O : Ops}

/-- what an honest dealer's run looks like from one receiver: the vector `v0` and the share `x0` with their encodings, and
    that the share passes the check (what a valid answer is: `AllowedK`) -/
structure Honest (O : Ops) where
  v0 : O.Vec
  vb : Bytes                      -- payload of the vector broadcast
  x0 : Nat
  sb : Bytes                      -- the private share message
  me : Nat
  shareOk : O.checkLog v0 me x0 = true

/-- deliveries an honest dealer and arbitrary other participants can cause -/
def AllowedK (H : Honest O) (s : St O) : Kind → Prop
  | .noop => True
  | .disq => False
  | .cmpl _ => True
  | .ans j sc => ∃ a, sc = some a ∧ O.checkLog H.v0 j a = true
  | .vec d => d = H.vb ∧ parseVec s d = some H.v0
  | .share d => d = H.sb ∧ parseShare O d = some H.x0

/-- the invariant: not disqualified, nothing inconsistent with the honest dealer's polynomial is stored -/
structure HD (H : Honest O) (s : St O) : Prop where
  inv : Inv s
  me : s.me = H.me
  ndq : s.disqualified = false
  vec : s.vAReceived = true → s.vA = some H.v0
  novec : s.vAReceived = false → s.vA = none
  share : s.xReceived = true → s.x = H.x0
  ans : ∀ k c, s.find k = some c → c.answerReceived = true → O.checkLog H.v0 k c.answer = true
  own : s.find s.me = none ∨ ∃ c, s.find s.me = some c ∧ c.received = false

theorem HD.noBad {H : Honest O} {s : St O} (h : HD H s) : anyBad (setVec s H.v0) = false := by
  unfold anyBad
  rw [List.any_eq_false]
  intro kc hkc
  unfold entryBad
  cases hr : kc.2.received <;> cases ha : kc.2.answerReceived <;> simp
  exact h.ans kc.1 kc.2 (St.find_of_mem h.inv.nodup hkc) ha

theorem HD.chk {H : Honest O} {s : St O} (h : HD H s) (hv : s.vAReceived = true) (k : Nat) (c : Complaint) :
    s.checkComplaint k c = !O.checkLog H.v0 k c.answer := by
  unfold St.checkComplaint; rw [h.vec hv]

theorem HD.vsVec {H : Honest O} {s : St O} (h : HD H s) (hx : s.xReceived = true) :
    (setVec s H.v0).verifyShare = true := by
  rw [vs_setVec, h.share hx, h.me]; exact H.shareOk

theorem HD.vsX {H : Honest O} {s : St O} (h : HD H s) (hv : s.vAReceived = true) :
    (setX s H.x0).verifyShare = true := by
  unfold St.verifyShare
  simp only [setX_vA, setX_me, setX_x, h.vec hv, h.me]
  exact H.shareOk

theorem HD.notRecv {H : Honest O} {s : St O} (h : HD H s) (c : Complaint) (hf : s.find s.me = some c) :
    c.received = false := by
  rcases h.own with ho | ⟨c', ho, hr⟩
  · rw [hf] at ho; cases ho
  · rw [hf] at ho; cases ho; exact hr

theorem hd_congr_fields {H : Honest O} {s : St O} (h : HD H s) (t : St O) (hinv : Inv t) (h1 : t.me = s.me)
    (h2 : t.complaints = s.complaints) (hd : t.disqualified = false)
    (hv : t.vAReceived = true → t.vA = some H.v0) (hnv : t.vAReceived = false → t.vA = none)
    (hx : t.xReceived = true → t.x = H.x0) : HD H t := by
  refine ⟨hinv, by rw [h1]; exact h.me, hd, hv, hnv, hx, ?_, ?_⟩
  · intro k c hf ha; rw [St.find_congr h2] at hf; exact h.ans k c hf ha
  · rw [h1, St.find_congr h2]; exact h.own

theorem hd_rv {H : Honest O} {s : St O} (h : HD H s) (d : Bytes) (hp : parseVec s d = some H.v0)
    (hv : s.vAReceived = false) (hst : s.sharesTimeout = false) :
    FvssQ.receiveVerifVector s s.dealer d = (setVec s H.v0, []) := by
  rw [rv_pair, if_neg (fun hh => hh rfl), if_neg (by simp [hv, hst]), hp]
  simp only []
  rw [h.noBad, if_neg Bool.false_ne_true]
  cases hx : s.xReceived
  · rfl
  · rw [if_pos rfl, h.vsVec hx]; rfl

theorem hd_rs {H : Honest O} {s : St O} (h : HD H s) (d : Bytes) (hp : parseShare O d = some H.x0)
    (hx : s.xReceived = false) (hst : s.sharesTimeout = false) :
    FvssQ.receiveShare s s.dealer d = (setX s H.x0, []) := by
  rw [rs_pair, if_neg (fun hh => hh rfl), if_neg (by simp [hx, hst]), hp]
  simp only []
  cases hv : s.vAReceived
  · rfl
  · rw [if_pos rfl, h.vsX hv]; rfl

theorem interp_vec {H : Honest O} {s : St O} (h : HD H s) (d : Bytes) (hp : parseVec s d = some H.v0) :
    interp s (.vec d) = if s.sharesTimeout = true ∨ s.vAReceived = true then s else setVec s H.v0 := by
  show (FvssQ.receiveVerifVector s s.dealer d).1 = _
  by_cases hg : s.sharesTimeout = true ∨ s.vAReceived = true
  · rw [if_pos hg, rv_noop s s.dealer d hg]
  · rw [if_neg hg, hd_rv h d hp (by simpa using fun hh => hg (Or.inr hh)) (by simpa using fun hh => hg (Or.inl hh))]

theorem interp_share {H : Honest O} {s : St O} (h : HD H s) (d : Bytes) (hp : parseShare O d = some H.x0) :
    interp s (.share d) = if s.sharesTimeout = true ∨ s.xReceived = true then s else setX s H.x0 := by
  show (FvssQ.receiveShare s s.dealer d).1 = _
  by_cases hg : s.sharesTimeout = true ∨ s.xReceived = true
  · rw [if_pos hg, rs_noop s s.dealer d hg]
  · rw [if_neg hg, hd_rs h d hp (by simpa using fun hh => hg (Or.inr hh)) (by simpa using fun hh => hg (Or.inl hh))]

theorem hd_applyUpd {H : Honest O} {s : St O} (h : HD H s) (k : Nat) (u : Upd) (hinv : Inv (applyUpd s k u))
    (hd : ∀ b, u.disq = some b → b = false) (hx : u.x = none)
    (hent : ∀ c, u.entry = some c → (c.answerReceived = true → O.checkLog H.v0 k c.answer = true) ∧
      (k = s.me → c.received = false)) : HD H (applyUpd s k u) := by
  refine ⟨hinv, by rw [applyUpd_me]; exact h.me, ?_, by rw [applyUpd_vAReceived, applyUpd_vA]; exact h.vec,
    by rw [applyUpd_vAReceived, applyUpd_vA]; exact h.novec, ?_, ?_, ?_⟩
  · rw [applyUpd_disq]
    cases hb : u.disq with
    | none => exact h.ndq
    | some b => exact hd b hb
  · rw [applyUpd_xReceived, applyUpd_x, hx]; exact h.share
  · intro j c hf ha
    rw [applyUpd_find] at hf
    by_cases hj : j = k
    · rw [if_pos hj] at hf
      subst hj
      cases he : u.entry with
      | none => rw [he] at hf; exact h.ans j c hf ha
      | some c' => rw [he] at hf; cases hf; exact (hent c he).1 ha
    · rw [if_neg hj] at hf; exact h.ans j c hf ha
  · rw [applyUpd_me, applyUpd_find]
    by_cases hj : s.me = k
    · rw [if_pos hj]
      cases he : u.entry with
      | none => rw [← hj]; exact h.own
      | some c' => exact Or.inr ⟨c', rfl, (hent c' he).2 hj.symm⟩
    · rw [if_neg hj]; exact h.own

theorem hd_cmpl {H : Honest O} {s : St O} (h : HD H s) (k : Nat) (hk : k ≠ s.me) (hinv : Inv (rcOk s k)) :
    HD H (rcOk s k) := by
  rw [rcOk_upd] at hinv ⊢
  have hu := rcU_cases (s.find k) s.vAReceived (s.checkComplaint k)
  refine hd_applyUpd h k _ hinv ?_ (rcU_x _ _ _) ?_
  · intro b hb
    obtain ⟨c0, hf, hv, ha, rfl⟩ := hu.2 b hb
    rw [h.chk hv]
    show (!O.checkLog H.v0 k c0.answer) = false
    rw [h.ans k c0 hf ha]; rfl
  · intro c hc
    refine ⟨fun ha => ?_, fun e => absurd e hk⟩
    rcases hu.1 c hc with ⟨_, rfl⟩ | ⟨c0, hf, rfl⟩
    · cases ha
    · exact h.ans k c0 hf ha

theorem hd_ans {H : Honest O} {s : St O} (h : HD H s) (j a : Nat) (hva : O.checkLog H.v0 j a = true)
    (hinv : Inv (raOk s j (some a))) : HD H (raOk s j (some a)) := by
  rw [raOk_upd] at hinv ⊢
  have hu := raU_cases (s.find j) s.vAReceived (s.checkComplaint j) s.disqualified (decide (j = s.me)) a
  -- an entry that is a complaint is not the own one
  have hjm : ∀ c0, s.find j = some c0 → c0.received = true → j ≠ s.me := by
    intro c0 hf hr e
    rw [e] at hf
    rw [h.notRecv c0 hf] at hr; cases hr
  refine hd_applyUpd h j _ hinv ?_ ?_ ?_
  · intro b hb
    obtain ⟨c0, _, hv, rfl⟩ := hu.2.1 b hb
    rw [h.chk hv]
    show (!O.checkLog H.v0 j a) = false
    rw [hva]; rfl
  · cases hx : (raU (s.find j) s.vAReceived (s.checkComplaint j) s.disqualified (decide (j = s.me)) (some a)).x with
    | none => rfl
    | some x =>
      obtain ⟨hm, c0, hf, hr⟩ := hu.2.2 (by rw [hx]; exact fun hh => nomatch hh)
      exact absurd (of_decide_eq_true hm) (hjm c0 hf hr)
  · intro c hc
    obtain ⟨_, hcase⟩ := hu.1 c hc
    rcases hcase with ⟨_, rfl⟩ | ⟨c0, hf, har, ⟨hr, hca⟩ | ⟨hr, _⟩⟩
    · exact ⟨fun _ => hva, fun _ => rfl⟩
    · exact ⟨fun _ => by rw [hca]; exact hva, fun e => absurd e (hjm c0 hf hr)⟩
    · rcases h.inv.wf j c0 hf with hw | hw
      · rw [hr] at hw; cases hw
      · rw [har] at hw; cases hw

theorem hd_interp {H : Honest O} {s : St O} (h : HD H s) (k : Kind) (ok : KOK s k) (ha : AllowedK H s k) :
    HD H (interp s k) := by
  have hinv := inv_interp s h.inv h.ndq k ok
  cases k with
  | noop => exact h
  | disq => exact ha.elim
  | cmpl k => exact hd_cmpl h k ok hinv
  | ans j sc =>
    obtain ⟨a, rfl, hva⟩ := ha
    exact hd_ans h j a hva hinv
  | vec d =>
    rw [interp_vec h d ha.2] at hinv ⊢
    by_cases hg : s.sharesTimeout = true ∨ s.vAReceived = true
    · rw [if_pos hg]; exact h
    · rw [if_neg hg] at hinv ⊢
      exact hd_congr_fields h _ hinv rfl rfl h.ndq (fun _ => rfl) (fun hh => nomatch hh) h.share
  | share d =>
    rw [interp_share h d ha.2] at hinv ⊢
    by_cases hg : s.sharesTimeout = true ∨ s.xReceived = true
    · rw [if_pos hg]; exact h
    · rw [if_neg hg] at hinv ⊢
      exact hd_congr_fields h _ hinv rfl rfl h.ndq h.vec h.novec (fun _ => rfl)

def answered (s : St O) (k : Nat) : Prop := ∃ c, s.find k = some c ∧ c.answerReceived = true

def keysIn (K : Finset Nat) (s : St O) : Prop := ∀ k c, s.find k = some c → k ∈ K

def KindIn (K : Finset Nat) : Kind → Prop
  | .cmpl k => k ∈ K
  | .ans j _ => j ∈ K
  | _ => True

/-- facts that a delivery never undoes -/
structure Mono (K : Finset Nat) (s t : St O) : Prop where
  cfg : SameCfg s t
  vec : s.vAReceived = true → t.vAReceived = true
  share : s.xReceived = true → t.xReceived = true
  ans : ∀ k, answered s k → answered t k
  keys : keysIn K s → keysIn K t

theorem Mono.refl' (K : Finset Nat) (s : St O) : Mono K s s :=
  ⟨SameCfg.rfl' s, fun h => h, fun h => h, fun _ h => h, fun h => h⟩

theorem Mono.trans' {K : Finset Nat} {s t u : St O} (a : Mono K s t) (b : Mono K t u) : Mono K s u :=
  ⟨a.cfg.trans b.cfg, fun h => b.vec (a.vec h), fun h => b.share (a.share h), fun k h => b.ans k (a.ans k h),
    fun h => b.keys (a.keys h)⟩

theorem mono_applyUpd (K : Finset Nat) (s : St O) (k : Nat) (u : Upd)
    (hent : ∀ c, u.entry = some c → k ∈ K ∧ ∀ c0, s.find k = some c0 → c0.answerReceived = true → c.answerReceived = true) :
    Mono K s (applyUpd s k u) := by
  refine ⟨applyUpd_cfg s k u, fun h => by rw [applyUpd_vAReceived]; exact h,
    fun h => by rw [applyUpd_xReceived]; exact h, ?_, ?_⟩
  · rintro j ⟨c0, hf, ha⟩
    unfold answered
    rw [applyUpd_find]
    split
    · rename_i hj; subst hj
      cases he : u.entry with
      | none => exact ⟨c0, hf, ha⟩
      | some c => exact ⟨c, rfl, (hent c he).2 c0 hf ha⟩
    · exact ⟨c0, hf, ha⟩
  · intro hk j c hf
    rw [applyUpd_find] at hf
    split at hf
    · rename_i hj
      cases he : u.entry with
      | none => rw [he] at hf; exact hj ▸ hk k c hf
      | some c' => exact hj ▸ (hent c' he).1
    · exact hk j c hf

theorem mono_fields (K : Finset Nat) (s t : St O) (hc : SameCfg s t) (h2 : t.complaints = s.complaints)
    (hv : s.vAReceived = true → t.vAReceived = true) (hx : s.xReceived = true → t.xReceived = true) : Mono K s t := by
  refine ⟨hc, hv, hx, ?_, ?_⟩
  · rintro k ⟨c, hf, ha⟩; exact ⟨c, by rw [St.find_congr h2]; exact hf, ha⟩
  · intro hk k c hf; rw [St.find_congr h2] at hf; exact hk k c hf

theorem mono_interp {H : Honest O} {s : St O} (K : Finset Nat) (h : HD H s) (k : Kind) (ha : AllowedK H s k)
    (hk : KindIn K k) : Mono K s (interp s k) := by
  cases k with
  | noop => exact Mono.refl' K s
  | disq => exact ha.elim
  | cmpl k =>
    show Mono K s (rcOk s k)
    rw [rcOk_upd]
    refine mono_applyUpd K s k _ (fun c hc => ⟨hk, fun c0 hf ha0 => ?_⟩)
    rcases (rcU_cases _ _ _).1 c hc with ⟨hn, _⟩ | ⟨c1, hf1, rfl⟩
    · rw [hn] at hf; cases hf
    · rw [hf] at hf1; cases hf1; exact ha0
  | ans j sc =>
    obtain ⟨a, rfl, _⟩ := ha
    show Mono K s (raOk s j (some a))
    rw [raOk_upd]
    exact mono_applyUpd K s j _ (fun c hc => ⟨hk, fun _ _ _ => ((raU_cases _ _ _ _ _ a).1 c hc).1⟩)
  | vec d =>
    rw [interp_vec h d ha.2]
    split
    · exact Mono.refl' K s
    · exact mono_fields K s _ ⟨rfl, rfl, rfl, rfl, rfl, rfl, rfl⟩ rfl (fun _ => rfl) (fun hh => hh)
  | share d =>
    rw [interp_share h d ha.2]
    split
    · exact Mono.refl' K s
    · exact mono_fields K s _ ⟨rfl, rfl, rfl, rfl, rfl, rfl, rfl⟩ rfl (fun hh => hh) (fun _ => rfl)

theorem vec_sets {H : Honest O} {s : St O} (h : HD H s) (hst : s.sharesTimeout = false) (d : Bytes)
    (ha : AllowedK H s (.vec d)) : (interp s (.vec d)).vAReceived = true := by
  rw [interp_vec h d ha.2]
  split
  · rename_i hg; exact hg.resolve_left (by rw [hst]; exact Bool.false_ne_true)
  · rfl

theorem share_sets {H : Honest O} {s : St O} (h : HD H s) (hst : s.sharesTimeout = false) (d : Bytes)
    (ha : AllowedK H s (.share d)) : (interp s (.share d)).xReceived = true := by
  rw [interp_share h d ha.2]
  split
  · rename_i hg; exact hg.resolve_left (by rw [hst]; exact Bool.false_ne_true)
  · rfl

/-- after a readable answer for `j` the entry of `j` is answered: by this answer or by an earlier one -/
theorem answered_raOk (s : St O) (j a : Nat) : answered (raOk s j (some a)) j := by
  unfold answered
  rw [raOk_upd, applyUpd_find, if_pos rfl]
  cases he : (raU (s.find j) s.vAReceived (s.checkComplaint j) s.disqualified (decide (j = s.me)) (some a)).entry with
  | some c => exact ⟨c, rfl, ((raU_cases _ _ _ _ _ a).1 c he).1⟩
  | none =>
    unfold raU at he
    cases hf : s.find j with
    | none => rw [hf] at he; cases he
    | some c0 =>
      rw [hf] at he
      simp only [] at he
      by_cases har : c0.answerReceived = true
      · exact ⟨c0, rfl, har⟩
      · rw [if_neg har] at he
        split at he <;> cases he

/-- the deliveries of a round are all compatible with an honest dealer, whatever state (with this configuration)
    they meet -/
def RoundOK (H : Honest O) (K : Finset Nat) (s : St O) (l : List Dl) : Prop :=
  ∀ e ∈ l, ∀ t, SameCfg s t → AllowedK H t (classify t e) ∧ KindIn K (classify t e) ∧ KOK t (classify t e)

theorem hd_step {H : Honest O} {s : St O} (K : Finset Nat) (h : HD H s) (e : Dl)
    (ha : AllowedK H s (classify s e)) (hk : KindIn K (classify s e)) :
    HD H (step s e) ∧ Mono K s (step s e) := by
  rw [step_classify s e h.inv.hme h.ndq]
  exact ⟨hd_interp h _ (classify_src s e).2 ha, mono_interp K h _ ha hk⟩

theorem hd_round {H : Honest O} (K : Finset Nat) : ∀ (l : List Dl) (s : St O), HD H s → RoundOK H K s l →
    HD H (runList s l) ∧ Mono K s (runList s l) ∧
    (s.sharesTimeout = false → ∀ e ∈ l, ∀ d, classify s e = .vec d → (runList s l).vAReceived = true) ∧
    (s.sharesTimeout = false → ∀ e ∈ l, ∀ d, classify s e = .share d → (runList s l).xReceived = true) ∧
    (∀ e ∈ l, ∀ j a, classify s e = .ans j (some a) → answered (runList s l) j) := by
  intro l
  induction l with
  | nil =>
    intro s h _
    refine ⟨h, Mono.refl' K s, ?_, ?_, ?_⟩
    · intro _ e he; cases he
    · intro _ e he; cases he
    · intro e he; cases he
  | cons e t ih =>
    intro s h hok
    obtain ⟨ha, hk, _⟩ := hok e List.mem_cons_self s (SameCfg.rfl' s)
    obtain ⟨h1, m1⟩ := hd_step K h e ha hk
    obtain ⟨h2, m2, v2, x2, a2⟩ := ih (step s e) h1
      (fun e' he' u hu => hok e' (List.mem_cons_of_mem _ he') u (m1.cfg.trans hu))
    have hcl : ∀ e' k, classify s e' = k → classify (step s e) e' = k :=
      fun e' k hc => (classify_cfg s _ m1.cfg e').trans hc
    have hst' : s.sharesTimeout = false → (step s e).sharesTimeout = false := fun hs => m1.cfg.sharesTimeout.trans hs
    -- what the head establishes is kept by the tail (`m2`); a delivery of the tail is covered by `ih`
    have hstep : step s e = interp s (classify s e) := step_classify s e h.inv.hme h.ndq
    refine ⟨h2, m1.trans' m2, ?_, ?_, ?_⟩
    · intro hs e' he' d hc
      rcases List.mem_cons.1 he' with rfl | he'
      · rw [hc] at hstep ha; exact m2.vec (by rw [hstep]; exact vec_sets h hs d ha)
      · exact v2 (hst' hs) e' he' d (hcl e' _ hc)
    · intro hs e' he' d hc
      rcases List.mem_cons.1 he' with rfl | he'
      · rw [hc] at hstep ha; exact m2.share (by rw [hstep]; exact share_sets h hs d ha)
      · exact x2 (hst' hs) e' he' d (hcl e' _ hc)
    · intro e' he' j a hc
      rcases List.mem_cons.1 he' with rfl | he'
      · rw [hc] at hstep; exact m2.ans j (by rw [hstep]; exact answered_raOk s j a)
      · exact a2 e' he' j a (hcl e' _ hc)

/-- configuration of the instance and the complaints-timeout flag -/
def CfgCT (s0 : St O) (ct : Bool) (t : St O) : Prop :=
  t.me = s0.me ∧ t.dealer = s0.dealer ∧ t.size = s0.size ∧ t.threshold = s0.threshold ∧ t.complaintsTimeout = ct

theorem CfgCT.threshold {s0 t : St O} {ct : Bool} (h : CfgCT s0 ct t) : t.threshold = s0.threshold := h.2.2.2.1
theorem CfgCT.ct {s0 t : St O} {ct : Bool} (h : CfgCT s0 ct t) : t.complaintsTimeout = ct := h.2.2.2.2

theorem CfgCT.trans {s0 s t : St O} {ct : Bool} (hs : CfgCT s0 ct s) (ht : SameCfg s t) : CfgCT s0 ct t :=
  ⟨ht.me.trans hs.1, ht.dealer.trans hs.2.1, ht.size.trans hs.2.2.1, ht.threshold.trans hs.threshold,
    ht.complaintsTimeout.trans hs.ct⟩

/-- a round whose deliveries are compatible with an honest dealer, stated for every state of the instance -/
def RoundOK' (H : Honest O) (K : Finset Nat) (s0 : St O) (ct : Bool) (l : List Dl) : Prop :=
  ∀ e ∈ l, ∀ t, CfgCT s0 ct t → AllowedK H t (classify t e) ∧ KindIn K (classify t e) ∧ KOK t (classify t e)

theorem roundOK_of' {H : Honest O} {K : Finset Nat} {s0 : St O} {ct : Bool} {l : List Dl}
    (h : RoundOK' H K s0 ct l) (u : St O) (hu : CfgCT s0 ct u) : RoundOK H K u l :=
  fun e he t ht => h e he t (hu.trans ht)

theorem length_le_card (K : Finset Nat) (s : St O) (hn : KeysNodup s) (hk : keysIn K s) :
    s.complaints.length ≤ K.card := by
  have hsub : (s.complaints.map (·.1)).toFinset ⊆ K := by
    intro k hk'
    obtain ⟨kc, hm, rfl⟩ := List.mem_map.1 (List.mem_toFinset.1 hk')
    exact hk kc.1 kc.2 (St.find_of_mem hn hm)
  have := Finset.card_le_card hsub
  rw [List.toFinset_card_of_nodup hn, List.length_map] at this
  exact this

theorem timeout_first_quiet (s : St O) (hd : s.disqualified = false) (hst : s.sharesTimeout = false)
    (hv : s.vAReceived = true) (hx : s.xReceived = true) : FvssQ.timeoutBody s = (stFlag s, []) := by
  rw [timeout_pair, hd, hst, hv, hx]
  rfl

theorem timeout_second_quiet (s : St O) (hd : s.disqualified = false) (hst : s.sharesTimeout = true)
    (hl : s.complaints.length ≤ s.threshold) : FvssQ.timeoutBody s = (ctFlag s, []) := by
  rw [timeout_pair, hd, hst, if_neg (Nat.not_lt.2 hl)]
  rfl

/-- **the run of a receiver with an honest dealer**: under the hypotheses of `honest_dealer_keys` both timeouts only
    set their flag and output nothing, the instance stays consistent with the dealer (`HD`) at the start of rounds two
    and three and before `End`, where it holds the vector and the share and every complaint is answered -/
structure HonestRun (H : Honest O) (s0 : St O) (r1 r2 r3 : List Dl) : Prop where
  t1 : FvssQ.timeoutBody (runList s0 r1) = (stFlag (runList s0 r1), [])
  hd1 : HD H (stFlag (runList s0 r1))
  cfg1 : CfgCT s0 false (stFlag (runList s0 r1))
  t2 : FvssQ.timeoutBody (runList (stFlag (runList s0 r1)) r2) = (ctFlag (runList (stFlag (runList s0 r1)) r2), [])
  hd2 : HD H (ctFlag (runList (stFlag (runList s0 r1)) r2))
  cfg2 : CfgCT s0 true (ctFlag (runList (stFlag (runList s0 r1)) r2))
  hd3 : HD H (runList (ctFlag (runList (stFlag (runList s0 r1)) r2)) r3)
  vec : (runList (ctFlag (runList (stFlag (runList s0 r1)) r2)) r3).vAReceived = true
  share : (runList (ctFlag (runList (stFlag (runList s0 r1)) r2)) r3).xReceived = true
  answered : (runList (ctFlag (runList (stFlag (runList s0 r1)) r2)) r3).complaints.any
    (fun kc => kc.2.received && !kc.2.answerReceived) = false

theorem HonestRun.tstep1 {H : Honest O} {s0 : St O} {r1 r2 r3 : List Dl} (h : HonestRun H s0 r1 r2 r3) :
    tstep (runList s0 r1) = stFlag (runList s0 r1) := congrArg Prod.fst h.t1

theorem HonestRun.tstep2 {H : Honest O} {s0 : St O} {r1 r2 r3 : List Dl} (h : HonestRun H s0 r1 r2 r3) :
    tstep (runList (stFlag (runList s0 r1)) r2) = ctFlag (runList (stFlag (runList s0 r1)) r2) := congrArg Prod.fst h.t2

theorem honest_run (H : Honest O) (K : Finset Nat) (s0 : St O) (h0 : HD H s0)
    (hst0 : s0.sharesTimeout = false) (hct0 : s0.complaintsTimeout = false) (hK : K.card ≤ s0.threshold)
    (hk0 : keysIn K s0) (r1 r2 r3 : List Dl)
    (ok1 : RoundOK' H K s0 false r1) (ok2 : RoundOK' H K s0 false r2) (ok3 : RoundOK' H K s0 true r3)
    (hvec : ∃ e ∈ r1, ∃ d, ∀ t, CfgCT s0 false t → classify t e = .vec d)
    (hshare : ∃ e ∈ r1, ∃ d, ∀ t, CfgCT s0 false t → classify t e = .share d)
    (hans : ∀ k ∈ K, ∃ a, (∃ e ∈ r1, ∀ t, CfgCT s0 false t → classify t e = .ans k (some a)) ∨
      (∃ e ∈ r2, ∀ t, CfgCT s0 false t → classify t e = .ans k (some a)) ∨
      (∃ e ∈ r3, ∀ t, CfgCT s0 true t → classify t e = .ans k (some a))) :
    HonestRun H s0 r1 r2 r3 := by
  have c0 : CfgCT s0 false s0 := ⟨rfl, rfl, rfl, rfl, hct0⟩
  -- round 1: the vector and the share arrive
  obtain ⟨h1, m1, v1, x1, a1⟩ := hd_round K r1 s0 h0 (roundOK_of' ok1 s0 c0)
  obtain ⟨ev, hev, dv, hcv⟩ := hvec
  obtain ⟨es, hes, ds, hcs⟩ := hshare
  have hv1 := v1 hst0 ev hev dv (hcv s0 c0)
  have hxr1 := x1 hst0 es hes ds (hcs s0 c0)
  have t1 := timeout_first_quiet _ h1.ndq (m1.cfg.sharesTimeout.trans hst0) hv1 hxr1
  have g1 : HD H (stFlag (runList s0 r1)) := by
    have i1 := inv_tstep _ h1.inv
    rw [show tstep (runList s0 r1) = _ from congrArg Prod.fst t1] at i1
    exact hd_congr_fields h1 _ i1 rfl rfl h1.ndq h1.vec h1.novec h1.share
  have c1 : CfgCT s0 false (stFlag (runList s0 r1)) := (c0.trans m1.cfg : CfgCT s0 false (runList s0 r1))
  -- round 2 and the second timeout: at most `t` complaints
  obtain ⟨h2, m2, _, _, a2⟩ := hd_round K r2 _ g1 (roundOK_of' ok2 _ c1)
  have hkeys2 : keysIn K (runList (stFlag (runList s0 r1)) r2) := m2.keys (m1.keys hk0)
  have t2 := timeout_second_quiet _ h2.ndq (m2.cfg.sharesTimeout.trans rfl)
    (by rw [(c1.trans m2.cfg).threshold]; exact (length_le_card K _ h2.inv.nodup hkeys2).trans hK)
  have g2 : HD H (ctFlag (runList (stFlag (runList s0 r1)) r2)) := by
    have i2 := inv_tstep _ h2.inv
    rw [show tstep (runList (stFlag (runList s0 r1)) r2) = _ from congrArg Prod.fst t2] at i2
    exact hd_congr_fields h2 _ i2 rfl rfl h2.ndq h2.vec h2.novec h2.share
  have c2 : CfgCT s0 true (ctFlag (runList (stFlag (runList s0 r1)) r2)) :=
    have c := c1.trans m2.cfg
    ⟨c.1, c.2.1, c.2.2.1, c.threshold, rfl⟩
  -- round 3: every participant of `K` has been answered by now
  obtain ⟨h3, m3, _, _, a3⟩ := hd_round K r3 _ g2 (roundOK_of' ok3 _ c2)
  have hansF : ∀ k ∈ K, answered (runList (ctFlag (runList (stFlag (runList s0 r1)) r2)) r3) k := by
    intro k hk
    obtain ⟨a, ⟨e, he, hc⟩ | ⟨e, he, hc⟩ | ⟨e, he, hc⟩⟩ := hans k hk
    · exact m3.ans k (m2.ans k (a1 e he k a (hc s0 c0)))
    · exact m3.ans k (a2 e he k a (hc _ c1))
    · exact a3 e he k a (hc _ c2)
  refine ⟨t1, g1, c1, t2, g2, c2, h3, m3.vec (m2.vec hv1), m3.share (m2.share hxr1), ?_⟩
  rw [List.any_eq_false]
  intro kc hkc
  have hf := St.find_of_mem h3.inv.nodup hkc
  obtain ⟨c, hc, hca⟩ := hansF kc.1 (m3.keys hkeys2 kc.1 kc.2 hf)
  rw [hf] at hc
  cases hc
  rw [hca]
  simp

/-- **an honest dealer is never disqualified and the receiver ends with the dealer's keys**: whatever the other
    participants broadcast or send and in whatever order, if the dealer's vector and the receiver's share arrive in
    the first round, at most `t` participants ever complain or are answered, and every one of them gets a valid
    answer before `End`, then `End` returns the receiver's share, the group key and the key shares of the dealer's
    polynomial -/
theorem honest_dealer_keys (H : Honest O) (K : Finset Nat) (s0 : St O) (h0 : HD H s0)
    (hst0 : s0.sharesTimeout = false) (hct0 : s0.complaintsTimeout = false) (hK : K.card ≤ s0.threshold)
    (hk0 : keysIn K s0) (hx0 : H.x0 ≠ 0) (hid : O.groupKeyIsIdentity H.v0 = false) (r1 r2 r3 : List Dl)
    (ok1 : RoundOK' H K s0 false r1) (ok2 : RoundOK' H K s0 false r2) (ok3 : RoundOK' H K s0 true r3)
    (hvec : ∃ e ∈ r1, ∃ d, ∀ t, CfgCT s0 false t → classify t e = .vec d)
    (hshare : ∃ e ∈ r1, ∃ d, ∀ t, CfgCT s0 false t → classify t e = .share d)
    (hans : ∀ k ∈ K, ∃ a, (∃ e ∈ r1, ∀ t, CfgCT s0 false t → classify t e = .ans k (some a)) ∨
      (∃ e ∈ r2, ∀ t, CfgCT s0 false t → classify t e = .ans k (some a)) ∨
      (∃ e ∈ r3, ∀ t, CfgCT s0 true t → classify t e = .ans k (some a))) :
    exec s0 r1 r2 r3 = .keys H.x0 (O.groupKey H.v0) (O.pubShares H.v0) := by
  have R := honest_run H K s0 h0 hst0 hct0 hK hk0 r1 r2 r3 ok1 ok2 ok3 hvec hshare hans
  unfold exec
  rw [R.tstep1, R.tstep2, endRes_eq, R.hd3.ndq, R.answered, R.hd3.vec R.vec, R.hd3.share R.share]
  simp [hx0, hid]

theorem hd_init (H : Honest O) (size threshold dealer : Nat) (hne : H.me ≠ dealer) :
    HD H ({ size := size, threshold := threshold, me := H.me, dealer := dealer, running := true } : St O) := by
  refine ⟨inv_empty _ hne rfl rfl, rfl, rfl, ?_, fun _ => rfl, ?_, ?_, Or.inl rfl⟩
  · intro hv; cases hv
  · intro hx; cases hx
  · intro k c hc; cases hc

end Proofs.DkgCommute
