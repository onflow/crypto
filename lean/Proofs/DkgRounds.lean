import Proofs.DkgSchedule
import Mathlib.Data.List.Induction

/-! Invariants of a running Feldman-VSS-Qual instance are preserved by every delivery; deliveries respect the
equivalence of states up to the order of the complaint table; hence the state after a round, and the verdict of
`End`, do not depend on the order in which the network delivered the messages of the round (`Swaps`, `rounds_independent`).
The timeout step `tstep` is here too, as an equation (`timeout_pair`), as case rules (`timeoutBody_cases`, `tstep_cases`)
and with its frame (`tstep_frame`), and the execution `exec` of three rounds with `endRes`. -/

namespace Proofs.DkgCommute
open Model Model.Dkg
variable {O : Ops}

theorem keys_setC (s : St O) (k : Nat) (c : Complaint) (h : KeysNodup s) : KeysNodup (s.setC k c) := by
  unfold KeysNodup at *
  simp only [setC_complaints, List.map_cons, List.nodup_cons]
  refine ⟨?_, ?_⟩
  · intro hm
    obtain ⟨x, hx, hk⟩ := List.mem_map.1 hm
    have := (List.mem_filter.1 hx).2
    simp only [bne_iff_ne, ne_eq] at this
    exact this hk
  · exact (h.sublist ((List.filter_sublist).map _))

theorem wf_setC (s : St O) (k : Nat) (c : Complaint) (h : EntriesWF s) (hc : c.received = true ∨ c.answerReceived = true) :
    EntriesWF (s.setC k c) := by
  intro j c' hf
  rw [find_setC] at hf
  split at hf
  · cases hf; exact hc
  · exact h j c' hf

def UpdWF (u : Upd) : Prop := ∀ c, u.entry = some c → c.received = true ∨ c.answerReceived = true

theorem keys_applyUpd (s : St O) (K : Nat) (u : Upd) (h : KeysNodup s) : KeysNodup (applyUpd s K u) := by
  unfold KeysNodup
  rw [applyUpd_complaints]
  cases u.entry with
  | none => exact h
  | some c => exact keys_setC s K c h

theorem wf_applyUpd (s : St O) (K : Nat) (u : Upd) (h : EntriesWF s) (hu : UpdWF u) : EntriesWF (applyUpd s K u) := by
  intro j c' hf
  rw [applyUpd_find] at hf
  split at hf
  · cases he : u.entry with
    | none => rw [he] at hf; exact h K c' hf
    | some c => rw [he] at hf; cases hf; exact hu _ he
  · exact h j c' hf

theorem rcU_wf (fc : Option Complaint) (b : Bool) (chk : Complaint → Bool) : UpdWF (rcU fc b chk) := by
  intro c h
  rcases (rcU_cases fc b chk).1 c h with ⟨_, rfl⟩ | ⟨_, _, rfl⟩ <;> exact Or.inl rfl

theorem raU_wf (fc : Option Complaint) (b : Bool) (chk : Complaint → Bool) (d m : Bool) (sc : Option Nat) :
    UpdWF (raU fc b chk d m sc) :=
  fun c h => Or.inr (raU_entry fc b chk d m sc c h).1

theorem bcU_wf (fc : Option Complaint) (b : Bool) (chk : Complaint → Bool) : UpdWF (bcU fc b chk) := by
  intro c h
  rcases (bcU_cases fc b chk).1 c h with ⟨_, rfl⟩ | ⟨_, _, rfl⟩ <;> exact Or.inl rfl

theorem inv_applyUpd (s : St O) (inv : Inv s) (hdq : s.disqualified = false) (K : Nat) (u : Upd) (hu : UpdWF u)
    (hown : ∀ c, (applyUpd s K u).find s.me = some c → c.received = true → s.xReceived = true ∨ s.sharesTimeout = true) :
    Inv (applyUpd s K u) := by
  refine ⟨?_, keys_applyUpd s K u inv.nodup, wf_applyUpd s K u inv.wf hu, ?_, ?_⟩
  · rw [applyUpd_me, applyUpd_dealer]; exact inv.hme
  · intro hv _
    rw [applyUpd_vA]
    rw [applyUpd_vAReceived] at hv
    exact inv.vecok hv hdq
  · intro c hc hr
    rw [applyUpd_me] at hc
    rw [applyUpd_xReceived, applyUpd_sharesTimeout]
    exact hown c hc hr

theorem inv_rcOk (s : St O) (inv : Inv s) (hdq : s.disqualified = false) (k : Nat) (hk : k ≠ s.me) : Inv (rcOk s k) := by
  rw [rcOk_F]
  apply inv_applyUpd s inv hdq k _ (rcU_wf _ _ _)
  intro c hc hr
  rw [applyUpd_find, if_neg (fun h => hk h.symm)] at hc
  exact inv.own c hc hr

theorem inv_raOk (s : St O) (inv : Inv s) (hdq : s.disqualified = false) (j : Nat) (sc : Option Nat) : Inv (raOk s j sc) := by
  rw [raOk_upd]
  apply inv_applyUpd s inv hdq j _ (raU_wf _ _ _ _ _ _)
  intro c hc hr
  rw [applyUpd_find] at hc
  split at hc
  · rename_i hj
    -- the own entry: an answer keeps its mark
    cases he : (raU (s.find j) s.vAReceived (s.checkComplaint j) s.disqualified (decide (j = s.me)) sc).entry with
    | none => rw [he, ← hj] at hc; exact inv.own c hc hr
    | some c' =>
      rw [he] at hc
      cases hc
      have hm := (raU_entry _ _ _ _ _ sc _ he).2
      rw [hr, ← hj] at hm
      cases hf : s.find s.me with
      | none => rw [hf] at hm; cases hm
      | some c0 => rw [hf] at hm; exact inv.own c0 hf hm.symm
  · exact inv.own c hc hr

theorem inv_congr (s t : St O) (inv : Inv s) (h1 : t.me = s.me) (h2 : t.dealer = s.dealer)
    (h3 : t.complaints = s.complaints)
    (h4 : t.vAReceived = true → t.disqualified = false → t.vA.isSome = true)
    (h5 : s.xReceived = true → t.xReceived = true) (h6 : t.sharesTimeout = s.sharesTimeout) : Inv t := by
  have hfind : ∀ k, t.find k = s.find k := by intro k; unfold St.find; rw [h3]
  refine ⟨by rw [h1, h2]; exact inv.hme, ?_, ?_, h4, ?_⟩
  · unfold KeysNodup; rw [h3]; exact inv.nodup
  · intro k c hc; rw [hfind] at hc; exact inv.wf k c hc
  · intro c hc hr
    rw [h1, hfind] at hc
    rcases inv.own c hc hr with h | h
    · exact Or.inl (h5 h)
    · exact Or.inr (by rw [h6]; exact h)

theorem wU_wf (s : St O) (v : O.Vec) : UpdWF (wU s v) := by
  unfold wU; split
  · exact bcU_wf _ _ _
  · intro c h; cases h

theorem shareF_wf (sh : Bytes) (s : St O) : UpdWF (shareF sh s) := by
  unfold shareF
  cases parseShare O sh with
  | none => exact bcU_wf _ _ _
  | some x =>
    simp only []
    split
    · exact bcU_wf _ _ _
    · intro c h; cases h

theorem inv_setDisq (s : St O) (inv : Inv s) : Inv (setDisq s true) :=
  inv_congr s _ inv rfl rfl rfl (fun _ h => by cases h) id rfl

theorem inv_interp (s : St O) (inv : Inv s) (hdq : s.disqualified = false) (k : Kind) (ok : KOK s k) :
    Inv (interp s k) := by
  cases k with
  | noop => exact inv
  | disq => exact inv_setDisq s inv
  | cmpl k => exact inv_rcOk s inv hdq k ok
  | ans j sc => exact inv_raOk s inv hdq j sc
  | vec d =>
    show Inv (FvssQ.receiveVerifVector s s.dealer d).1
    rw [rv_upd s _ rfl]
    cases hg : (s.sharesTimeout || s.vAReceived)
    case true => exact inv
    simp only [Bool.false_eq_true, if_false]
    cases parseVec s d with
    | none => exact inv_congr s (vecBad s) inv rfl rfl rfl (fun _ h => by cases h) id rfl
    | some v =>
      simp only []
      have invT : Inv (setVec s v) := inv_congr s (setVec s v) inv rfl rfl rfl (fun _ _ => rfl) id rfl
      split
      · exact inv_setDisq _ invT
      · apply inv_applyUpd (setVec s v) invT hdq s.me _ (wU_wf s v)
        intro c hc hr
        by_cases hx : s.xReceived = true
        · exact Or.inl hx
        · -- without a share the vector does not trigger a complaint
          have : wU s v = {} := by unfold wU; rw [if_neg (fun h => hx h.1)]
          rw [this, applyUpd_empty] at hc
          exact inv.own c hc hr
  | share sh =>
    show Inv (FvssQ.receiveShare s s.dealer sh).1
    rw [rs_upd s _ rfl]
    cases hg : (s.sharesTimeout || s.xReceived)
    case true => exact inv
    simp only [Bool.false_eq_true, if_false]
    have hpre : (pre sh s).xReceived = true := by rw [pre_eq]
    have invT : Inv (pre sh s) :=
      inv_congr s (pre sh s) inv (pre_me sh s) (by rw [pre_eq]) (by rw [pre_eq])
        (fun hv _ => by rw [pre_eq] at hv ⊢; exact inv.vecok hv hdq) (fun _ => hpre) (by rw [pre_eq])
    have := inv_applyUpd (pre sh s) invT (by rw [pre_disq]; exact hdq) (pre sh s).me _ (shareF_wf sh s)
      (fun _ _ _ => Or.inl hpre)
    rwa [pre_me] at this

theorem inv_run (s : St O) (inv : Inv s) (k : Kind) (ok : KOK s k) : Inv (run s k) := by
  unfold run
  by_cases hd : s.disqualified = true
  · rw [if_pos hd]; exact inv
  · rw [if_neg hd]; exact inv_interp s inv (by simpa using hd) k ok

theorem inv_step (s : St O) (inv : Inv s) (e : Dl) : Inv (step s e) := by
  rw [step_run s e inv.hme]
  exact inv_run s inv _ (classify_src s e).2

theorem find_perm (l1 l2 : List (Nat × Complaint)) (hp : l1.Perm l2) (hn : (l1.map (·.1)).Nodup) (k : Nat) :
    (l1.find? (·.1 == k)) = (l2.find? (·.1 == k)) := by
  have hn2 : (l2.map (·.1)).Nodup := (hp.map _).nodup_iff.1 hn
  cases h1 : l1.find? (·.1 == k) with
  | some x =>
    have hx := List.find?_some h1
    have hk : x.1 = k := by simpa using hx
    have hm : x ∈ l2 := hp.mem_iff.1 (List.mem_of_find?_eq_some h1)
    have : x = (k, x.2) := Prod.ext hk rfl
    rw [this] at hm ⊢
    exact (find_of_mem l2 hn2 k x.2 hm).symm
  | none =>
    cases h2 : l2.find? (·.1 == k) with
    | none => rfl
    | some y =>
      exfalso
      have hm : y ∈ l1 := hp.mem_iff.2 (List.mem_of_find?_eq_some h2)
      have hy := List.find?_some h2
      rw [List.find?_eq_none] at h1
      exact h1 y hm hy

theorem Equiv.find {a b : St O} (h : Equiv a b) (hn : KeysNodup a) (k : Nat) : a.find k = b.find k := by
  unfold St.find
  rw [find_perm _ _ h.perm hn k]

theorem Equiv.cc {a b : St O} (h : Equiv a b) (k : Nat) : a.checkComplaint k = b.checkComplaint k := cc_congr h.vA k

theorem equiv_applyUpd {a b : St O} (h : Equiv a b) (K : Nat) (u : Upd) : Equiv (applyUpd a K u) (applyUpd b K u) := by
  obtain ⟨he, hp⟩ := equiv_iff.1 h
  rw [equiv_iff, applyUpd_eq a, applyUpd_eq b]
  constructor
  · exact congrArg (fun t : St O => { t with disqualified := u.disq.getD t.disqualified, x := u.x.getD t.x }) he
  · cases u.entry with
    | none => exact hp
    | some c => exact List.Perm.cons _ (hp.filter _)

theorem equiv_cfg {a b : St O} (h : Equiv a b) : SameCfg a b :=
  ⟨h.me.symm, h.dealer.symm, h.size.symm, h.threshold.symm, h.sharesTimeout.symm, h.complaintsTimeout.symm,
    h.running.symm⟩

theorem equiv_pre {a b : St O} (h : Equiv a b) (sh : Bytes) : Equiv (pre sh a) (pre sh b) :=
  h.map (pre sh) (fun t l => by rw [pre_eq, pre_eq]; rfl)

theorem ownF_equiv {a b : St O} (h : Equiv a b) (hn : KeysNodup a) : ownF a = ownF b :=
  ownF_congr h.me ((h.find hn a.me).trans (by rw [h.me])) h.vAReceived h.vA

theorem anyBad_equiv {a b : St O} (h : Equiv a b) (v : O.Vec) : anyBad (setVec a v) = anyBad (setVec b v) := by
  unfold anyBad entryBad
  simp only [setVec_complaints, cc_setVec]
  exact List.Perm.any_eq h.perm

theorem wU_equiv {a b : St O} (h : Equiv a b) (hn : KeysNodup a) (v : O.Vec) : wU a v = wU b v := by
  unfold wU
  rw [h.xReceived, h.me, h.x, h.find hn b.me]

theorem equiv_interp {a b : St O} (h : Equiv a b) (hn : KeysNodup a) (k : Kind) : Equiv (interp a k) (interp b k) := by
  cases k with
  | noop => exact h
  | disq => exact h.map (fun t => setDisq t true) (fun _ _ => rfl)
  | cmpl k =>
    show Equiv (rcOk a k) (rcOk b k)
    rw [rcOk_F, rcOk_F, cmplF_congr k (h.find hn k) h.vAReceived h.vA]
    exact equiv_applyUpd h _ _
  | ans j sc =>
    show Equiv (raOk a j sc) (raOk b j sc)
    rw [raOk_F, raOk_F, ansF_congr j sc (h.find hn j) h.vAReceived h.vA h.disqualified h.me]
    exact equiv_applyUpd h _ _
  | vec d =>
    show Equiv (FvssQ.receiveVerifVector a a.dealer d).1 (FvssQ.receiveVerifVector b b.dealer d).1
    rw [rv_upd a _ rfl, rv_upd b _ rfl, ← h.sharesTimeout, ← h.vAReceived, parseVec_cfg a b (equiv_cfg h)]
    split
    · exact h
    · cases parseVec a d with
      | none => exact h.map vecBad (fun _ _ => rfl)
      | some v =>
        have hv := h.map (fun t => setVec t v) (fun _ _ => rfl)
        simp only []
        rw [← anyBad_equiv h v, ← wU_equiv h hn v, ← h.me]
        split
        · exact hv.map (fun t => setDisq t true) (fun _ _ => rfl)
        · exact equiv_applyUpd hv _ _
  | share sh =>
    show Equiv (FvssQ.receiveShare a a.dealer sh).1 (FvssQ.receiveShare b b.dealer sh).1
    rw [rs_upd a _ rfl, rs_upd b _ rfl, ← h.sharesTimeout, ← h.xReceived, ← h.me,
      ← shareF_congr sh h.me ((h.find hn a.me).trans (by rw [h.me])) h.vAReceived h.vA]
    split
    · exact h
    · exact equiv_applyUpd (equiv_pre h sh) _ _

theorem RelP.trans' {a b c : St O} (h : RelP a b) (g : RelP b c) : RelP a c := by
  rcases h with h | h
  · exact Or.inl ⟨h.1, g.disq_right h.2⟩
  · rcases g with g | g
    · exact Or.inl ⟨by rw [h.disqualified]; exact g.1, g.2⟩
    · exact Or.inr (h.trans' g)

theorem relP_step {a b : St O} (h : RelP a b) (ia : Inv a) (ib : Inv b) (e : Dl) : RelP (step a e) (step b e) := by
  rcases h with h | h
  · rw [step_disq a e h.1, step_disq b e h.2]
    exact Or.inl h
  · rw [step_run a e ia.hme, step_run b e ib.hme, classify_cfg a b (equiv_cfg h)]
    cases hd : a.disqualified
    · rw [run_ok a _ hd, run_ok b _ (h.disqualified.symm.trans hd)]
      exact Or.inr (equiv_interp h ia.nodup _)
    · rw [run_disq a _ hd, run_disq b _ (h.disqualified.symm.trans hd)]
      exact Or.inr h

def runList (s : St O) (l : List Dl) : St O := l.foldl step s

/-- delivery orders the network may produce from one another: adjacent transpositions of reorderable deliveries -/
inductive Swaps : List Dl → List Dl → Prop
  | refl (l : List Dl) : Swaps l l
  | swap (p q : List Dl) (e1 e2 : Dl) (h : reorderable e1 e2) : Swaps (p ++ e1 :: e2 :: q) (p ++ e2 :: e1 :: q)
  | trans {a b c : List Dl} : Swaps a b → Swaps b c → Swaps a c

/-! A round does not depend on the delivery order, for any invariant `I` of the deliveries (`Inv` at a receiver, `DInv`
of `DkgJoint` on the dealer's own instance): it is enough that two reorderable deliveries commute on the states
satisfying `I`, and that a delivery respects `RelP` there. -/

section diamond
variable {I : St O → Prop} (iStep : ∀ s e, I s → I (step s e))
include iStep

theorem runList_keeps (s : St O) (hs : I s) (l : List Dl) : I (runList s l) := by
  unfold runList
  induction l generalizing s with
  | nil => exact hs
  | cons e t ih => exact ih (step s e) (iStep s e hs)

theorem runList_relP (rStep : ∀ a b e, RelP a b → I a → I b → RelP (step a e) (step b e)) {a b : St O}
    (h : RelP a b) (ia : I a) (ib : I b) (l : List Dl) : RelP (runList a l) (runList b l) := by
  unfold runList
  induction l generalizing a b with
  | nil => exact h
  | cons e t ih => exact ih (rStep a b e h ia ib) (iStep a e ia) (iStep b e ib)

theorem swaps_independent (rStep : ∀ a b e, RelP a b → I a → I b → RelP (step a e) (step b e))
    (pair : ∀ s e1 e2, I s → reorderable e1 e2 → RelP (step (step s e1) e2) (step (step s e2) e1))
    (s : St O) (hs : I s) (l1 l2 : List Dl) (h : Swaps l1 l2) : RelP (runList s l1) (runList s l2) := by
  induction h with
  | refl l => exact Or.inr (Equiv.refl' _)
  | swap p q e1 e2 hr =>
    unfold runList
    rw [List.foldl_append, List.foldl_append]
    have ip : I (p.foldl step s) := runList_keeps iStep s hs p
    exact runList_relP iStep rStep (pair _ e1 e2 ip hr) (iStep _ _ (iStep _ _ ip)) (iStep _ _ (iStep _ _ ip)) q
  | trans _ _ ih1 ih2 => exact ih1.trans' ih2

end diamond

theorem inv_runList (s : St O) (inv : Inv s) (l : List Dl) : Inv (runList s l) :=
  runList_keeps (fun s e i => inv_step s i e) s inv l

theorem relP_runList {a b : St O} (h : RelP a b) (ia : Inv a) (ib : Inv b) (l : List Dl) :
    RelP (runList a l) (runList b l) :=
  runList_relP (fun s e i => inv_step s i e) (fun _ _ e h ia ib => relP_step h ia ib e) h ia ib l

theorem round_independent (s : St O) (inv : Inv s) (l1 l2 : List Dl) (h : Swaps l1 l2) :
    RelP (runList s l1) (runList s l2) :=
  swaps_independent (fun s e i => inv_step s i e) (fun _ _ e h ia ib => relP_step h ia ib e)
    (fun s e1 e2 i hr => step_pair s i e1 e2 hr) s inv l1 l2 h

def Dl.chan (e : Dl) : Nat × Bool := (e.sender, e.isPriv)

theorem reorderable_iff (a b : Dl) : reorderable a b ↔ a.chan ≠ b.chan := by
  unfold reorderable Dl.chan
  constructor
  · rintro (h | h) he
    · exact h (congrArg Prod.fst he)
    · exact h (congrArg Prod.snd he)
  · intro h
    by_cases h1 : a.sender = b.sender
    · right; intro h2; exact h (Prod.ext h1 h2)
    · left; exact h1

theorem reorderable_symm {a b : Dl} (h : reorderable a b) : reorderable b a := by
  rw [reorderable_iff] at *; exact fun e => h e.symm

theorem Swaps.symm {a b : List Dl} (h : Swaps a b) : Swaps b a := by
  induction h with
  | refl l => exact Swaps.refl l
  | swap p q e1 e2 hr => exact Swaps.swap p q e2 e1 (reorderable_symm hr)
  | trans _ _ ih1 ih2 => exact Swaps.trans ih2 ih1

theorem Swaps.prepend (p : List Dl) {a b : List Dl} (h : Swaps a b) : Swaps (p ++ a) (p ++ b) := by
  induction h with
  | refl l => exact Swaps.refl _
  | swap p' q e1 e2 hr =>
    have := Swaps.swap (p ++ p') q e1 e2 hr
    simpa [List.append_assoc] using this
  | trans _ _ ih1 ih2 => exact Swaps.trans ih1 ih2

theorem Swaps.bubble (a b : List Dl) (e : Dl) (h : ∀ x ∈ a, reorderable x e) : Swaps (a ++ e :: b) (e :: a ++ b) := by
  induction a using List.reverseRecOn generalizing b with
  | nil => exact Swaps.refl _
  | append_singleton a x ih =>
    have hx : reorderable x e := h x (by simp)
    have h1 : Swaps (a ++ [x] ++ e :: b) (a ++ e :: x :: b) := by
      have := Swaps.swap a b x e hx
      simpa [List.append_assoc] using this
    have h2 : Swaps (a ++ e :: (x :: b)) (e :: a ++ (x :: b)) := ih (x :: b) (fun y hy => h y (by simp [hy]))
    have h3 : e :: a ++ (x :: b) = e :: (a ++ [x]) ++ b := by simp
    rw [h3] at h2
    exact Swaps.trans h1 h2

def stream (l : List Dl) (c : Nat × Bool) : List Dl := l.filter (fun e => e.chan == c)

theorem swaps_of_streams : ∀ (l1 l2 : List Dl), (∀ c, stream l1 c = stream l2 c) → Swaps l1 l2 := by
  intro l1
  induction l1 with
  | nil =>
    intro l2 h
    cases l2 with
    | nil => exact Swaps.refl _
    | cons x t =>
      have := h x.chan
      simp [stream] at this
  | cons e t ih =>
    intro l2 h
    -- split l2 at the first delivery of the stream of `e`
    have hne : stream l2 e.chan ≠ [] := by
      rw [← h e.chan]; simp [stream]
    obtain ⟨a, e', b, hl2, ha, he'⟩ : ∃ a e' b, l2 = a ++ e' :: b ∧ (∀ x ∈ a, x.chan ≠ e.chan) ∧ e'.chan = e.chan := by
      clear h ih
      induction l2 with
      | nil => simp [stream] at hne
      | cons y u ihu =>
        by_cases hy : y.chan = e.chan
        · exact ⟨[], y, u, rfl, by simp, hy⟩
        · have : stream u e.chan ≠ [] := by
            intro hu; apply hne
            simp [stream, hy]; simpa [stream] using hu
          obtain ⟨a, e', b, h1, h2, h3⟩ := ihu this
          refine ⟨y :: a, e', b, by rw [h1]; rfl, ?_, h3⟩
          intro x hx
          rcases List.mem_cons.1 hx with rfl | hx
          · exact hy
          · exact h2 x hx
    have hfa : stream a e.chan = [] := by
      unfold stream
      rw [List.filter_eq_nil_iff]
      intro x hx; simpa using ha x hx
    have hee : e' = e := by
      have := h e.chan
      rw [hl2] at this
      simp only [stream, List.filter_cons, List.filter_append, beq_self_eq_true, if_true] at this
      have hfa' : List.filter (fun x => x.chan == e.chan) a = [] := hfa
      rw [hfa'] at this
      have he2 : (e'.chan == e.chan) = true := by simpa using he'
      rw [he2] at this
      simp only [if_true, List.nil_append] at this
      exact (List.cons.inj this).1.symm
    subst hee
    -- the remaining deliveries have the same streams
    have hrest : ∀ c, stream t c = stream (a ++ b) c := by
      intro c
      have := h c
      rw [hl2] at this
      simp only [stream, List.filter_cons, List.filter_append] at this ⊢
      by_cases hc : e'.chan = c
      · have hc' : (e'.chan == c) = true := by simpa using hc
        rw [hc'] at this
        simp only [if_true] at this
        have hfa' : List.filter (fun x => x.chan == c) a = [] := by rw [← hc]; exact hfa
        rw [hfa'] at this ⊢
        simp only [List.nil_append] at this ⊢
        exact (List.cons.inj this).2
      · have hc' : (e'.chan == c) = false := by simpa using hc
        rw [hc'] at this
        simpa using this
    have h1 : Swaps (e' :: t) (e' :: (a ++ b)) := Swaps.prepend [e'] (ih (a ++ b) hrest)
    have h2 : Swaps (a ++ e' :: b) (e' :: a ++ b) :=
      Swaps.bubble a b e' (fun x hx => (reorderable_iff x e').2 (ha x hx))
    rw [hl2]
    exact Swaps.trans h1 h2.symm

/-- the local timeout step (`NextTimeout` on a running instance) -/
def tstep (s : St O) : St O := (FvssQ.timeoutBody s).1

def stFlag (s : St O) : St O := { s with sharesTimeout := true }
def ctFlag (s : St O) : St O := { s with complaintsTimeout := true }

theorem timeout_pair (s : St O) : FvssQ.timeoutBody s =
    if s.disqualified then (if !s.sharesTimeout then stFlag s else ctFlag s, [])
    else if !s.sharesTimeout then
      (if !s.vAReceived then (setDisq (stFlag s) true, [.disq s.dealer])
       else if !s.xReceived then FvssQ.buildComplaint (stFlag s) else (stFlag s, []))
    else (if s.complaints.length > s.threshold then (setDisq (ctFlag s) true, [.disq s.dealer]) else (ctFlag s, [])) := by
  unfold FvssQ.timeoutBody FvssQ.setSharesTimeout FvssQ.setComplaintsTimeout
  by_cases hd : s.disqualified = true
  · rw [if_pos hd, if_pos hd]; rfl
  · rw [if_neg hd, if_neg hd]
    by_cases hst : (!s.sharesTimeout) = true
    · rw [if_pos hst, if_pos hst]
      simp only []
      by_cases hv : (!s.vAReceived) = true
      · have hv' : (!({ s with sharesTimeout := true } : St O).vAReceived) = true := hv
        rw [if_pos hv, if_pos hv']; rfl
      · have hv' : ¬ (!({ s with sharesTimeout := true } : St O).vAReceived) = true := hv
        rw [if_neg hv, if_neg hv']
        by_cases hx : (!s.xReceived) = true
        · have hx' : (!({ s with sharesTimeout := true } : St O).xReceived) = true := hx
          rw [if_pos hx, if_pos hx']; rfl
        · have hx' : ¬ (!({ s with sharesTimeout := true } : St O).xReceived) = true := hx
          rw [if_neg hx, if_neg hx']; rfl
    · rw [if_neg hst, if_neg hst]
      simp only []
      by_cases hl : s.complaints.length > s.threshold
      · have hl' : ({ s with complaintsTimeout := true } : St O).complaints.length >
            ({ s with complaintsTimeout := true } : St O).threshold := hl
        rw [if_pos hl, if_pos hl']; rfl
      · have hl' : ¬ ({ s with complaintsTimeout := true } : St O).complaints.length >
            ({ s with complaintsTimeout := true } : St O).threshold := hl
        rw [if_neg hl, if_neg hl']; rfl

theorem tstep_eq (s : St O) : tstep s =
    if s.disqualified then (if !s.sharesTimeout then stFlag s else ctFlag s)
    else if !s.sharesTimeout then
      (if !s.vAReceived then setDisq (stFlag s) true
       else if !s.xReceived then (FvssQ.buildComplaint (stFlag s)).1 else stFlag s)
    else (if s.complaints.length > s.threshold then setDisq (ctFlag s) true else ctFlag s) := by
  rw [tstep, timeout_pair]
  simp only [apply_ite Prod.fst]

/-- Case rule for the timeout handler, used like `buildComplaint_cases`; `noShare` is left as a call of `buildComplaint`. -/
theorem timeoutBody_cases {P : St O × List Out → Prop} (s : St O)
    (disq1 : s.disqualified = true → s.sharesTimeout = false → P (stFlag s, []))
    (disq2 : s.disqualified = true → s.sharesTimeout = true → P (ctFlag s, []))
    (noVec : s.disqualified = false → s.sharesTimeout = false → s.vAReceived = false →
      P (setDisq (stFlag s) true, [.disq s.dealer]))
    (noShare : s.disqualified = false → s.sharesTimeout = false → s.vAReceived = true → s.xReceived = false →
      P (FvssQ.buildComplaint (stFlag s)))
    (first : s.disqualified = false → s.sharesTimeout = false → s.vAReceived = true → s.xReceived = true →
      P (stFlag s, []))
    (many : s.disqualified = false → s.sharesTimeout = true → s.complaints.length > s.threshold →
      P (setDisq (ctFlag s) true, [.disq s.dealer]))
    (second : s.disqualified = false → s.sharesTimeout = true → ¬ s.complaints.length > s.threshold →
      P (ctFlag s, [])) :
    P (FvssQ.timeoutBody s) := by
  rw [timeout_pair]
  cases hd : s.disqualified <;> cases hst : s.sharesTimeout
  · cases hv : s.vAReceived
    · exact noVec hd hst hv
    · cases hx : s.xReceived
      · exact noShare hd hst hv hx
      · exact first hd hst hv hx
  · by_cases hl : s.complaints.length > s.threshold
    · rw [if_neg (by decide), if_neg (by decide), if_pos hl]; exact many hd hst hl
    · rw [if_neg (by decide), if_neg (by decide), if_neg hl]; exact second hd hst hl
  · exact disq1 hd hst
  · exact disq2 hd hst

theorem tstep_cases {P : St O → Prop} (s : St O)
    (disq1 : s.disqualified = true → s.sharesTimeout = false → P (stFlag s))
    (disq2 : s.disqualified = true → s.sharesTimeout = true → P (ctFlag s))
    (noVec : s.disqualified = false → s.sharesTimeout = false → s.vAReceived = false → P (setDisq (stFlag s) true))
    (noShare : s.disqualified = false → s.sharesTimeout = false → s.vAReceived = true → s.xReceived = false →
      P (FvssQ.buildComplaint (stFlag s)).1)
    (first : s.disqualified = false → s.sharesTimeout = false → s.vAReceived = true → s.xReceived = true →
      P (stFlag s))
    (many : s.disqualified = false → s.sharesTimeout = true → s.complaints.length > s.threshold →
      P (setDisq (ctFlag s) true))
    (second : s.disqualified = false → s.sharesTimeout = true → ¬ s.complaints.length > s.threshold →
      P (ctFlag s)) :
    P (tstep s) :=
  timeoutBody_cases (P := fun r => P r.1) s disq1 disq2 noVec noShare first many second

theorem tstep_frame (s : St O) :
    (tstep s).me = s.me ∧ (tstep s).dealer = s.dealer ∧ (tstep s).size = s.size ∧ (tstep s).threshold = s.threshold ∧
    (tstep s).running = s.running ∧ (tstep s).sharesTimeout = true ∧
    (tstep s).complaintsTimeout = (s.sharesTimeout || s.complaintsTimeout) := by
  refine tstep_cases (P := fun t => t.me = s.me ∧ t.dealer = s.dealer ∧ t.size = s.size ∧ t.threshold = s.threshold ∧
    t.running = s.running ∧ t.sharesTimeout = true ∧ t.complaintsTimeout = (s.sharesTimeout || s.complaintsTimeout))
    s ?_ ?_ ?_ ?_ ?_ ?_ ?_
  · exact fun _ h => ⟨rfl, rfl, rfl, rfl, rfl, rfl, by rw [h]; rfl⟩
  · exact fun _ h => ⟨rfl, rfl, rfl, rfl, rfl, h, by rw [h]; rfl⟩
  · exact fun _ h _ => ⟨rfl, rfl, rfl, rfl, rfl, rfl, by rw [h]; rfl⟩
  · intro _ h _ _
    have c := bc_cfg (stFlag s)
    exact ⟨c.me, c.dealer, c.size, c.threshold, c.running, c.sharesTimeout, by rw [c.complaintsTimeout, h]; rfl⟩
  · exact fun _ h _ _ => ⟨rfl, rfl, rfl, rfl, rfl, rfl, by rw [h]; rfl⟩
  · exact fun _ h _ => ⟨rfl, rfl, rfl, rfl, rfl, h, by rw [h]; rfl⟩
  · exact fun _ h _ => ⟨rfl, rfl, rfl, rfl, rfl, h, by rw [h]; rfl⟩

theorem tstep_me (s : St O) : (tstep s).me = s.me := (tstep_frame s).1
theorem tstep_dealer (s : St O) : (tstep s).dealer = s.dealer := (tstep_frame s).2.1
theorem tstep_size (s : St O) : (tstep s).size = s.size := (tstep_frame s).2.2.1
theorem tstep_threshold (s : St O) : (tstep s).threshold = s.threshold := (tstep_frame s).2.2.2.1
theorem tstep_running (s : St O) : (tstep s).running = s.running := (tstep_frame s).2.2.2.2.1
theorem tstep_st (s : St O) : (tstep s).sharesTimeout = true := (tstep_frame s).2.2.2.2.2.1
theorem tstep_ct (s : St O) : (tstep s).complaintsTimeout = (s.sharesTimeout || s.complaintsTimeout) :=
  (tstep_frame s).2.2.2.2.2.2

theorem tstep_equiv {a b : St O} (h : Equiv a b) (hn : KeysNodup a) : Equiv (tstep a) (tstep b) := by
  have e1 := h.map stFlag (fun _ _ => rfl)
  have e2 := h.map ctFlag (fun _ _ => rfl)
  have dq : ∀ {x y : St O}, Equiv x y → Equiv (setDisq x true) (setDisq y true) :=
    fun e => e.map (fun t => setDisq t true) (fun _ _ => rfl)
  -- the timeout of `b` is decided by the guards of `a`
  have eb := tstep_eq b
  rw [← h.disqualified, ← h.sharesTimeout, ← h.vAReceived, ← h.xReceived, ← h.perm.length_eq, ← h.threshold] at eb
  refine tstep_cases (P := fun t => Equiv t (tstep b)) a ?_ ?_ ?_ ?_ ?_ ?_ ?_
  · intro hd hst; rw [eb, hd, hst]; exact e1
  · intro hd hst; rw [eb, hd, hst]; exact e2
  · intro hd hst hv; rw [eb, hd, hst, hv]; exact dq e1
  · intro hd hst hv hx
    rw [eb, hd, hst, hv, hx]
    show Equiv (FvssQ.buildComplaint (stFlag a)).1 (FvssQ.buildComplaint (stFlag b)).1
    rw [bc_upd, bc_upd]
    have := ownF_equiv e1 hn
    unfold ownF at this
    rw [this, show (stFlag a).me = (stFlag b).me from h.me]
    exact equiv_applyUpd e1 _ _
  · intro hd hst hv hx; rw [eb, hd, hst, hv, hx]; exact e1
  · intro hd hst hl; rw [eb, hd, hst, if_pos hl]; exact dq e2
  · intro hd hst hl; rw [eb, hd, hst, if_neg hl]; exact e2

theorem tstep_disq (s : St O) (h : s.disqualified = true) : (tstep s).disqualified = true :=
  tstep_cases (P := fun t => t.disqualified = true) s (fun _ _ => h) (fun _ _ => h) (fun _ _ _ => rfl)
    (fun h' => by rw [h] at h'; cases h') (fun _ _ _ _ => h) (fun _ _ _ => rfl) (fun _ _ _ => h)

theorem relP_tstep {a b : St O} (h : RelP a b) (hn : KeysNodup a) : RelP (tstep a) (tstep b) := by
  rcases h with h | h
  · exact Or.inl ⟨tstep_disq a h.1, tstep_disq b h.2⟩
  · exact Or.inr (tstep_equiv h hn)

theorem inv_tstep (s : St O) (inv : Inv s) : Inv (tstep s) := by
  have istF : Inv (stFlag s) := ⟨inv.hme, inv.nodup, inv.wf, inv.vecok, fun _ _ _ => Or.inr rfl⟩
  have ictF : Inv (ctFlag s) := ⟨inv.hme, inv.nodup, inv.wf, inv.vecok, inv.own⟩
  refine tstep_cases s (fun _ _ => istF) (fun _ _ => ictF) (fun _ _ _ => inv_setDisq _ istF) (fun hdq _ _ _ => ?_)
    (fun _ _ _ _ => istF) (fun _ _ _ => inv_setDisq _ ictF) (fun _ _ _ => ictF)
  rw [bc_upd]
  exact inv_applyUpd (stFlag s) istF hdq _ _ (bcU_wf _ _ _) (fun _ _ _ => Or.inr rfl)

/-- what `End` returns -/
def endRes (s : St O) : Res := (FvssQ.endBody s).2.2

theorem endRes_eq (s : St O) : endRes s =
    if s.disqualified ∨ s.complaints.any (fun kc => kc.2.received && !kc.2.answerReceived) then .failure
    else match s.vA with
      | none => .failure
      | some v => if s.x = 0 then .failure else if O.groupKeyIsIdentity v then .failure
                  else .keys s.x (O.groupKey v) (O.pubShares v) := by
  unfold endRes FvssQ.endBody FvssQ.settle
  simp only []
  by_cases hd : s.disqualified = true
  · simp [hd]
  · have hd' : s.disqualified = false := by simpa using hd
    by_cases ha : (s.complaints.any fun kc => kc.2.received && !kc.2.answerReceived) = true
    · simp [hd', ha]
    · have ha' : (s.complaints.any fun kc => kc.2.received && !kc.2.answerReceived) = false := by simpa using ha
      simp only [hd', ha', Bool.not_false, Bool.false_eq_true, and_false, if_false, false_or]
      cases s.vA with
      | none => rfl
      | some v =>
        simp only []
        split
        · rfl
        · split <;> rfl

theorem endRes_relP {a b : St O} (h : RelP a b) : endRes a = endRes b := by
  rw [endRes_eq, endRes_eq]
  rcases h with h | h
  · simp [h.1, h.2]
  · rw [h.disqualified, h.vA, h.x, List.Perm.any_eq h.perm]

/-- a complete execution of the three rounds at one participant: deliveries, timeout, deliveries, timeout,
    deliveries, `End` -/
def exec (s : St O) (r1 r2 r3 : List Dl) : Res :=
  endRes (runList (tstep (runList (tstep (runList s r1)) r2)) r3)

theorem rounds_independent {I : St O → Prop} (nodup : ∀ s, I s → KeysNodup s)
    (iList : ∀ s l, I s → I (runList s l)) (iT : ∀ s, I s → I (tstep s))
    (rList : ∀ a b l, RelP a b → I a → I b → RelP (runList a l) (runList b l))
    (round : ∀ s l l', I s → (∀ c, stream l c = stream l' c) → RelP (runList s l) (runList s l'))
    (s : St O) (hs : I s) (r1 r1' r2 r2' r3 r3' : List Dl)
    (h1 : ∀ c, stream r1 c = stream r1' c) (h2 : ∀ c, stream r2 c = stream r2' c)
    (h3 : ∀ c, stream r3 c = stream r3' c) :
    RelP (runList (tstep (runList (tstep (runList s r1)) r2)) r3)
      (runList (tstep (runList (tstep (runList s r1')) r2')) r3') := by
  -- one round and the timeout after it, from related states
  have next : ∀ a b l l', RelP a b → I a → I b → (∀ c, stream l c = stream l' c) →
      RelP (tstep (runList a l)) (tstep (runList b l')) ∧ I (tstep (runList a l)) ∧ I (tstep (runList b l')) :=
    fun a b l l' h ia ib hl =>
      ⟨relP_tstep ((rList a b l h ia ib).trans' (round b l l' ib hl)) (nodup _ (iList a l ia)),
        iT _ (iList a l ia), iT _ (iList b l' ib)⟩
  obtain ⟨a1, i1, i1'⟩ := next s s r1 r1' (Or.inr (Equiv.refl' s)) hs hs h1
  obtain ⟨a2, i2, i2'⟩ := next _ _ r2 r2' a1 i1 i1' h2
  exact (rList _ _ r3 a2 i2 i2').trans' (round _ r3 r3' i2' h3)

/-- **the result of `End` does not depend on the order in which the network delivers the messages of each
    round**: any two executions whose rounds have the same stream of deliveries per sender and channel
    (broadcasts of one sender keep their order, private messages of one sender keep theirs) end with the same
    verdict and, on success, the same keys -/
theorem exec_order_independent (s : St O) (inv : Inv s) (r1 r1' r2 r2' r3 r3' : List Dl)
    (h1 : ∀ c, stream r1 c = stream r1' c) (h2 : ∀ c, stream r2 c = stream r2' c)
    (h3 : ∀ c, stream r3 c = stream r3' c) : exec s r1 r2 r3 = exec s r1' r2' r3' :=
  endRes_relP (rounds_independent (I := Inv) (fun _ i => i.nodup) (fun s l i => inv_runList s i l)
    (fun s i => inv_tstep s i) (fun _ _ l h ia ib => relP_runList h ia ib l)
    (fun s l l' i h => round_independent s i l l' (swaps_of_streams l l' h)) s inv r1 r1' r2 r2' r3 r3' h1 h2 h3)

end Proofs.DkgCommute
