import Proofs.FisherYates
import Mathlib.Data.List.Perm.Basic
import Mathlib.Data.List.Range

/-! Inside-out Fisher–Yates is a bijection: for every arrangement `p` of `0..n-1` there is exactly one valid choice
vector (`j_i ≤ i`) on which the loop of `Permutation` produces `p`. So every permutation has exactly one choice
vector — equal likelihood of the outcomes reduces to equal likelihood of the choice vectors, i.e. to the
uniformity of each `UintN(i+1)` in the bytes it consumes.

A step writes `i` at position `i` and exchanges positions `i` and `j`. It is undone by exchanging them again and
clearing position `i` (`unstep`); the choice `j` is where the value `i` sits. -/

namespace Proofs.FisherYates
open Model Model.Prg

/-- state before step `i`, strong form: the first `i` positions hold a permutation of `0..i-1`, the others `0` -/
def PInv (n i : Nat) (a : List Nat) : Prop :=
  a.length = n ∧ (a.take i).Perm (List.range i) ∧ (∀ k (h : k < a.length), i ≤ k → a[k] = 0)

theorem pinv_inv (n i : Nat) (a : List Nat) (hi : i ≤ n) (h : PInv n i a) : Inv n i a := by
  obtain ⟨hl, hp, hz⟩ := h
  refine ⟨hl, fun k hk hki => ?_, hz⟩
  exact List.mem_range.1 ((hp.mem_iff).1 (List.mem_take_iff_getElem.2 ⟨k, by omega, rfl⟩))

theorem pinv_init (n : Nat) : PInv n 0 (List.replicate n 0) :=
  ⟨List.length_replicate, List.Perm.refl _, fun _ _ _ => List.getElem_replicate _⟩

theorem pinv_zero (n : Nat) (a : List Nat) (h : PInv n 0 a) : a = List.replicate n 0 :=
  List.eq_replicate_iff.2 ⟨h.1, fun x hx => by
    obtain ⟨k, hk, rfl⟩ := List.getElem_of_mem hx
    exact h.2.2 k hk (Nat.zero_le k)⟩

theorem pinv_perm (n : Nat) (p : List Nat) : PInv n n p ↔ p.Perm (List.range n) := by
  constructor
  · rintro ⟨hl, hp, _⟩
    rwa [← hl, List.take_length, hl] at hp
  · intro hp
    have hl : p.length = n := by rw [hp.length_eq, List.length_range]
    exact ⟨hl, by rwa [← hl, List.take_length, hl], fun k hk hnk => by omega⟩

theorem step_eq_swap (a : List Nat) (i j : Nat) (hi : i < a.length) : step a i j = swap (a.set i i) i j := by
  unfold step swap setAt
  rw [List.set_set, List.getD_eq_getElem?_getD (i := i), List.getElem?_set_self hi, Option.getD_some]
  by_cases hji : j = i
  · subst hji; rw [List.set_set, List.set_set]
  · rw [List.getD_eq_getElem?_getD, List.getD_eq_getElem?_getD, List.getElem?_set_ne (Ne.symm hji)]

def unstep (b : List Nat) (i j : Nat) : List Nat := (swap b i j).set i 0

theorem pinv_choice {n i : Nat} {b : List Nat} (h : PInv n (i + 1) b) : ∃ j ≤ i, b[j]? = some i := by
  obtain ⟨j, hj, hja⟩ := List.mem_take_iff_getElem.1 ((h.2.1.mem_iff).2 (List.mem_range.2 (Nat.lt_succ_self i)))
  exact ⟨j, by omega, List.getElem?_eq_some_iff.2 ⟨_, hja⟩⟩

section step
variable {n i j : Nat} (hi : i < n) (hj : j ≤ i)
include hi hj

theorem step_pinv {a : List Nat} (h : PInv n i a) : PInv n (i + 1) (step a i j) := by
  obtain ⟨rfl, hp, hz⟩ := h
  have hil : i < (a.set i i).length := by rwa [List.length_set]
  rw [step_eq_swap a i j hi]
  refine ⟨by rw [swap_length, List.length_set], ?_, fun k hk hik => ?_⟩
  · refine (swap_take_perm _ (Nat.lt_succ_self i) (Nat.lt_succ_of_le hj) hil).trans ?_
    rw [List.take_succ_eq_append_getElem hil, List.take_set_of_le (Nat.le_refl i), List.getElem_set_self,
      List.range_succ]
    exact hp.append_right [i]
  · rw [swap_get_ne _ (by omega) (by omega), List.getElem_set_ne (by omega)]
    exact hz k _ (by omega)

theorem step_get_choice {a : List Nat} (hl : a.length = n) : (step a i j)[j]? = some i := by
  rw [step, setAt, List.getElem?_set_self (by rw [setAt, List.length_set]; omega)]

theorem unstep_step {a : List Nat} (h : PInv n i a) : unstep (step a i j) i j = a := by
  obtain ⟨rfl, -, hz⟩ := h
  rw [unstep, step_eq_swap a i j hi, swap_swap _ (by rwa [List.length_set]) (by rw [List.length_set]; omega),
    List.set_set, ← hz i hi (Nat.le_refl i), List.set_getElem_self]

variable {b : List Nat} (h : PInv n (i + 1) b) (hb : b[j]? = some i)
include h hb

omit hj in
theorem step_unstep : step (unstep b i j) i j = b := by
  obtain ⟨hjl, hb⟩ := List.getElem?_eq_some_iff.1 hb
  have hil : i < b.length := h.1 ▸ hi
  have e : (swap b i j).set i i = swap b i j := by
    have := List.set_getElem_self (as := swap b i j) (i := i) (by rwa [swap_length])
    rwa [swap_get_left b hil hjl, hb] at this
  rw [step_eq_swap _ i j (by rwa [unstep, List.length_set, swap_length]), unstep, List.set_set, e,
    swap_swap b hil hjl]

theorem unstep_pinv : PInv n i (unstep b i j) := by
  obtain ⟨hjl, hb⟩ := List.getElem?_eq_some_iff.1 hb
  obtain ⟨rfl, hp, hz⟩ := h
  refine ⟨by rw [unstep, List.length_set, swap_length], ?_, fun k hk hik => ?_⟩
  · have := (swap_take_perm b (Nat.lt_succ_self i) (Nat.lt_succ_of_le hj) hi).trans hp
    rw [List.take_succ_eq_append_getElem (by rwa [swap_length]), swap_get_left b hi hjl, hb,
      List.range_succ] at this
    rw [unstep, List.take_set_of_le (Nat.le_refl i)]
    exact (List.perm_append_right_iff [i]).1 this
  · simp only [unstep, List.getElem_set]
    split
    · rfl
    · rw [swap_get_ne b (by omega) (by omega)]
      exact hz k _ (by omega)

omit hi in
theorem pinv_choice_unique {j' : Nat} (hj' : j' ≤ i) (hb' : b[j']? = some i) : j' = j := by
  obtain ⟨hjl, hb⟩ := List.getElem?_eq_some_iff.1 hb
  obtain ⟨hjl', hb'⟩ := List.getElem?_eq_some_iff.1 hb'
  have hnd : (b.take (i + 1)).Nodup := h.2.1.nodup_iff.2 List.nodup_range
  exact (hnd.getElem_inj_iff (i := j') (j := j) (hi := by rw [List.length_take]; omega)
    (hj := by rw [List.length_take]; omega)).1 (by rw [List.getElem_take, List.getElem_take, hb, hb'])

end step

theorem run_pinv (n : Nat) (js : List Nat) (i : Nat) (a : List Nat) (hv : Valid js i) (hn : i + js.length ≤ n)
    (h : PInv n i a) : PInv n (i + js.length) (run js i a) := by
  induction js generalizing i a with
  | nil => exact h
  | cons j js ih =>
    rw [List.length_cons] at hn ⊢
    rw [run, ← Nat.add_assoc, Nat.add_right_comm]
    exact ih (i + 1) _ hv.2 (by omega) (step_pinv (by omega) hv.1 h)

theorem run_pinv_init (n : Nat) (js : List Nat) (hv : Valid js 0) (hn : js.length ≤ n) :
    PInv n js.length (run js 0 (List.replicate n 0)) := by
  have := run_pinv n js 0 _ hv (by omega) (pinv_init n)
  rwa [Nat.zero_add] at this

theorem run_bijective (n : Nat) : ∀ (i : Nat) (b : List Nat), i ≤ n → PInv n i b →
    ∃ js, (js.length = i ∧ Valid js 0 ∧ run js 0 (List.replicate n 0) = b) ∧
      ∀ js', js'.length = i → Valid js' 0 → run js' 0 (List.replicate n 0) = b → js' = js := by
  intro i
  induction i with
  | zero =>
    intro b _ h
    exact ⟨[], ⟨rfl, trivial, (pinv_zero n b h).symm⟩, fun js' hl _ _ => List.length_eq_zero_iff.1 hl⟩
  | succ i ih =>
    intro b hi h
    obtain ⟨j, hj, hb⟩ := pinv_choice h
    obtain ⟨js, ⟨hjl, hjv, hjr⟩, huniq⟩ := ih _ (by omega) (unstep_pinv (by omega) hj h hb)
    refine ⟨js ++ [j], ⟨by rw [List.length_append, hjl]; rfl, ?_, ?_⟩, ?_⟩
    · rw [valid_append]; exact ⟨hjv, by omega⟩
    · rw [run_append, hjr, Nat.zero_add, hjl]; exact step_unstep (by omega) h hb
    · intro js' hl' hv' hr'
      rcases List.eq_nil_or_concat' js' with rfl | ⟨js2, j2, rfl⟩
      · cases hl'
      have hl2 : js2.length = i := by simpa using hl'
      rw [valid_append, Nat.zero_add, hl2] at hv'
      rw [run_append, Nat.zero_add, hl2] at hr'
      have h2 := hl2 ▸ run_pinv_init n js2 hv'.1 (by omega)
      -- the last choice is the position of the value `i`, the state before it is recovered by `unstep`
      obtain rfl : j2 = j := pinv_choice_unique hj h hb hv'.2
        (hr' ▸ step_get_choice (by omega) hv'.2 h2.1)
      rw [huniq js2 hl2 hv'.1 (by rw [← unstep_step (by omega) hj h2, hr'])]

/-- **the loop of `Permutation` is a bijection from valid choice vectors onto the arrangements of `0..n-1`**:
    every permutation `p` of `0..n-1` is produced by exactly one choice vector `j_0 ≤ 0, j_1 ≤ 1, …, j_{n-1} ≤ n-1` -/
theorem permutation_bijective (n : Nat) (p : List Nat) (hp : p.Perm (List.range n)) :
    ∃ js, (js.length = n ∧ Valid js 0 ∧ run js 0 (List.replicate n 0) = p) ∧
      ∀ js', js'.length = n → Valid js' 0 → run js' 0 (List.replicate n 0) = p → js' = js :=
  run_bijective n n p (Nat.le_refl n) ((pinv_perm n p).2 hp)

end Proofs.FisherYates
