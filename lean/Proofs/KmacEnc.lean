import Model.KmacEnc
import Proofs.Bytes
import Mathlib.Tactic.NormNum

/-! The Go loops of `leftEncode` / `rightEncode` (hash/kmac.go) against NIST SP 800-185, for every 64-bit value; first the
big-endian digit lemmas they need (`natBE_of_lt`, `natBE_succ`). -/

namespace Model

theorem natLE_zero (j : Nat) : natLE j 0 = zeros j := by
  induction j with
  | zero => rfl
  | succ j ih => simp [natLE, ih, zeros, List.replicate_succ]

theorem natLE_add (k j n : Nat) : natLE (k + j) n = natLE k n ++ natLE j (n / 256 ^ k) := by
  induction k generalizing n with
  | zero => simp [natLE]
  | succ k ih => simp [Nat.add_right_comm k 1 j, natLE, ih, Nat.div_div_eq_div_mul, Nat.pow_succ']

theorem natBE_of_lt {k n : Nat} (h : n < 256 ^ k) (j : Nat) : natBE (j + k) n = zeros j ++ natBE k n := by
  simp [natBE, Nat.add_comm j k, natLE_add, Nat.div_eq_of_lt h, natLE_zero, zeros]

theorem natBE_succ (k n : Nat) : natBE (k + 1) n = UInt8.ofNat (n / 256 ^ k % 256) :: natBE k n := by
  rw [natBE, natLE_add]
  simp [natBE, natLE]

end Model

namespace Model.KmacEnc

theorem u8_eq_zero (x : Nat) : (UInt8.ofNat x = 0) ↔ x % 256 = 0 := by
  constructor
  · intro h
    have := congrArg UInt8.toNat h
    simpa [UInt8.toNat_ofNat'] using this
  · intro h
    apply UInt8.toNat_inj.1
    simp [UInt8.toNat_ofNat', h]

theorem natBE_head_ne_zero {m v : Nat} (hge : 256 ^ m ≤ v) (hlt : v < 256 ^ (m + 1)) :
    ∃ x t, natBE (m + 1) v = x :: t ∧ x ≠ 0 := by
  refine ⟨_, _, natBE_succ m v, fun h => ?_⟩
  have h1 : v / 256 ^ m < 256 := (Nat.div_lt_iff_lt_mul (Nat.pow_pos (by norm_num))).2 (by rwa [Nat.pow_succ'] at hlt)
  have h2 : 0 < v / 256 ^ m := Nat.div_pos hge (Nat.pow_pos (by norm_num))
  rw [u8_eq_zero, Nat.mod_eq_of_lt h1] at h
  omega

/-- `m = 0` apart: `0` takes one byte too -/
theorem numBytes_spec (fuel v : Nat) (h : v < 256 ^ (fuel + 1)) :
    ∃ m, Spec.numBytes fuel v = m + 1 ∧ v < 256 ^ (m + 1) ∧ (m = 0 ∨ 256 ^ m ≤ v) := by
  induction fuel generalizing v with
  | zero => exact ⟨0, rfl, h, .inl rfl⟩
  | succ fuel ih =>
    by_cases c : v < 256
    · exact ⟨0, by simp [Spec.numBytes, c], by simpa using c, .inl rfl⟩
    · obtain ⟨m, hn, hlt, hge⟩ := ih (v / 256) ((Nat.div_lt_iff_lt_mul (by norm_num)).2 (by rwa [Nat.pow_succ] at h))
      have hge' : 256 ^ m ≤ v / 256 := by
        rcases hge with rfl | hge
        · simp; omega
        · exact hge
      refine ⟨m + 1, by simp [Spec.numBytes, c, hn, Nat.add_comm], ?_, .inr ?_⟩
      · rw [Nat.pow_succ]; exact (Nat.div_lt_iff_lt_mul (by norm_num)).1 hlt
      · rw [Nat.pow_succ]; exact (Nat.le_div_iff_mul_le (by norm_num)).1 hge'

theorem skipLoop_zeros (pre rest : Bytes) (j bound fuel : Nat) (hf : j ≤ fuel) (hb : pre.length + j ≤ bound)
    (hstop : pre.length + j = bound ∨ ∃ x t, rest = x :: t ∧ x ≠ 0) :
    Code.skipLoop (pre ++ zeros j ++ rest) bound fuel pre.length = pre.length + j := by
  induction j generalizing pre fuel with
  | zero =>
    cases fuel with
    | zero => rfl
    | succ fuel =>
      have : ¬ (pre.length < bound ∧ (pre ++ rest).getD pre.length 0 = 0) := by
        rcases hstop with h | ⟨x, t, rfl, hx⟩
        · omega
        · simp [hx]
      have e : pre ++ zeros 0 ++ rest = pre ++ rest := by simp [zeros]
      rw [e, Code.skipLoop, if_neg this]; rfl
  | succ j ih =>
    obtain ⟨fuel, rfl⟩ : ∃ f, fuel = f + 1 := ⟨fuel - 1, by omega⟩
    have e : pre ++ zeros (j + 1) ++ rest = (pre ++ [0]) ++ zeros j ++ rest := by simp [zeros, List.replicate_succ]
    have h0 : (pre ++ zeros (j + 1) ++ rest).getD pre.length 0 = 0 := by simp [zeros, List.replicate_succ]
    have := ih (pre ++ [0]) fuel (by omega) (by simp; omega) (by simpa [Nat.add_right_comm, Nat.add_assoc] using hstop)
    rw [Code.skipLoop, if_pos ⟨by omega, h0⟩, e]
    simpa [Nat.add_assoc, Nat.add_comm 1 j] using this

/-- `32` is the fuel `Spec.leftEncode` and `Spec.rightEncode` give `numBytes` -/
theorem natBE8_split (v : Nat) (hv : v < 2 ^ 64) :
    ∃ m, Spec.numBytes 32 v = m + 1 ∧ m ≤ 7 ∧ natBE 8 v = zeros (7 - m) ++ natBE (m + 1) v ∧
      (m = 0 ∨ ∃ x t, natBE (m + 1) v = x :: t ∧ x ≠ 0) := by
  obtain ⟨m, hn, hlt, hge⟩ := numBytes_spec 32 v (Nat.lt_of_lt_of_le hv (by norm_num))
  have hm : m ≤ 7 := by
    rcases hge with rfl | hge
    · omega
    · have : 256 ^ m < 256 ^ 8 := Nat.lt_of_le_of_lt hge (by norm_num at hv ⊢; exact hv)
      have := (Nat.pow_lt_pow_iff_right (by norm_num)).1 this
      omega
  refine ⟨m, hn, hm, ?_, hge.imp_right fun hge => natBE_head_ne_zero hge hlt⟩
  rw [← natBE_of_lt hlt]
  congr 1; omega

theorem drop_set_append (A B : Bytes) (a x : UInt8) (t : Bytes) :
    ((A ++ B ++ a :: t).set (A.length + B.length) x).drop A.length = B ++ x :: t := by
  rw [← List.length_append, List.set_append_right _ _ (Nat.le_refl _)]
  simp

/-- the Go loop of `leftEncode` computes the SP 800-185 encoding for every 64-bit value -/
theorem leftEncode_spec (v : Nat) (hv : v < 2 ^ 64) : Code.leftEncode v = Spec.leftEncode v := by
  obtain ⟨m, hn, hm, e8, hne⟩ := natBE8_split v hv
  have hskip : Code.skipLoop (0 :: natBE 8 v) 8 8 1 = 8 - m := by
    have := skipLoop_zeros [0] (natBE (m + 1) v) (7 - m) 8 8 (by omega) (by simp; omega)
      (hne.imp_left fun h => by simp [h])
    rw [e8]
    simpa [show 1 + (7 - m) = 8 - m by omega] using this
  have e9 : 0 :: natBE 8 v = zeros (7 - m) ++ 0 :: natBE (m + 1) v := by
    rw [e8, ← List.cons_append, zeros, ← List.replicate_succ, List.replicate_succ']; simp
  simp only [Code.leftEncode, Spec.leftEncode, hskip, hn]
  rw [e9]
  simp [zeros, show 8 - m - 1 = 7 - m by omega, show 9 - (8 - m) = m + 1 by omega]

/-- the Go loop of `rightEncode` computes the SP 800-185 encoding for every 64-bit value -/
theorem rightEncode_spec (v : Nat) (hv : v < 2 ^ 64) : Code.rightEncode v = Spec.rightEncode v := by
  obtain ⟨m, hn, hm, e8, hne⟩ := natBE8_split v hv
  have hskip : Code.skipLoop (natBE 8 v ++ [0]) 7 8 0 = 7 - m := by
    have := skipLoop_zeros [] (natBE (m + 1) v ++ [0]) (7 - m) 7 8 (by omega) (by simp)
      (hne.imp (fun h => by simp [h]) fun ⟨x, t, e, hx⟩ => ⟨x, t ++ [0], by simp [e], hx⟩)
    rw [e8]
    simpa using this
  simp only [Code.rightEncode, Spec.rightEncode, hskip, hn]
  rw [e8]
  have := drop_set_append (zeros (7 - m)) (natBE (m + 1) v) 0 (UInt8.ofNat (m + 1)) []
  simpa [zeros, natBE_length, show 7 - m + (m + 1) = 8 by omega, show 8 - (7 - m) = m + 1 by omega] using this

end Model.KmacEnc
