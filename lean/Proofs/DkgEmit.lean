import Proofs.DkgJointEnd

/-!
# What an honest dealer emits at `Start`, and that a receiver accepts it

`OwnNet` (Proofs/DkgJointEnd) is a hypothesis on what an honest dealer's own instance and a receiver's instance of that
dealer receive. The receiver's round-one part is discharged here from the dealer's own `Start`: the outputs of `Start` are one broadcast of the verification vector and
one private share message per other participant (`start_outputs`), and - given the laws that tie the writers to
the readers of the crypto record (`OpsLaws`) - a receiver classifies exactly these two messages as the dealer's vector
and its own valid share (`emission_allowed`).
-/

namespace Proofs.DkgAgree
open Model Model.Dkg Proofs.DkgCommute

variable {O : Ops}

/-- the writers and readers of the crypto record agree on the polynomial `a`, and the Feldman check accepts the shares
    of `a` against the vector of `a` -/
structure OpsLaws (O : Ops) (size threshold : Nat) (a : List Nat) : Prop where
  vecLen : (O.vecBytes a).length = verifVectorSize * (threshold + 1)
  vecRead : O.readVec threshold size (O.vecBytes a) = some (O.vecOfPoly size a)
  shareLen : ∀ i, (O.writeScalar (O.polyEval a i)).length = shareSize
  shareRead : ∀ i, O.polyEval a i ≠ 0 → O.readScalar (O.writeScalar (O.polyEval a i)) = some (O.polyEval a i)
  shareOk : ∀ i, i < size → O.checkLog (O.vecOfPoly size a) i (O.polyEval a (i + 1)) = true

theorem shareLoop_sends (a : List Nat) (me : Nat) : ∀ (k i : Nat) (outs : List Out) (x : Nat) (outs' : List Out) (x' : Nat),
    shareLoop O a me k i outs x = some (outs', x') →
      (∀ o ∈ outs, o ∈ outs') ∧
      ∀ j, i ≤ j → j < i + k → j - 1 ≠ me → Out.send (j - 1) (tagShare :: O.writeScalar (O.polyEval a j)) ∈ outs' := by
  intro k
  induction k with
  | zero =>
    intro i outs x outs' x' h
    unfold shareLoop at h
    cases h
    exact ⟨fun o ho => ho, fun j h1 h2 => by omega⟩
  | succ k ih =>
    intro i outs x outs' x' h
    unfold shareLoop at h
    simp only [] at h
    by_cases hme : i - 1 = me
    · rw [if_pos hme] at h
      by_cases h0 : O.polyEval a i = 0
      · rw [if_pos h0] at h; cases h
      · rw [if_neg h0] at h
        obtain ⟨r1, r2⟩ := ih (i + 1) outs _ outs' x' h
        refine ⟨r1, ?_⟩
        intro j h1 h2 h3
        by_cases hj : j = i
        · subst hj; exact absurd hme h3
        · exact r2 j (by omega) (by omega) h3
    · rw [if_neg hme] at h
      obtain ⟨r1, r2⟩ := ih (i + 1) _ x outs' x' h
      refine ⟨fun o ho => r1 o (List.mem_append_left _ ho), ?_⟩
      intro j h1 h2 h3
      by_cases hj : j = i
      · subst hj
        exact r1 _ (List.mem_append_right _ (List.mem_singleton.2 rfl))
      · exact r2 j (by omega) (by omega) h3

/-- **what `Start` emits at the dealer**: the broadcast of the verification vector of the polynomial it drew, and to
    every other participant `i` the private message carrying `a(i+1)`; the dealer keeps `vecOfPoly size a` -/
theorem start_outputs (size threshold me : Nat) (seed : Bytes) (s' : St O) (outs : List Out)
    (h : Dkg.start ({ size := size, threshold := threshold, me := me, dealer := me } : St O) seed = (s', outs, .ok)) :
    ∃ a, O.genPoly seed threshold = some a ∧ s'.a = a ∧ s'.vA = some (O.vecOfPoly size a) ∧
      Out.bcast (tagVerifVec :: O.vecBytes a) ∈ outs ∧
      ∀ i, i < size → i ≠ me → Out.send i (tagShare :: O.writeScalar (O.polyEval a (i + 1))) ∈ outs := by
  unfold Dkg.start Dkg.startBody Dkg.generateShares at h
  simp only [Bool.false_eq_true, if_false, if_true] at h
  cases hg : O.genPoly seed threshold with
  | none => rw [hg] at h; simp at h
  | some a =>
    rw [hg] at h
    simp only [] at h
    cases hl : shareLoop O a me size 1 [] 0 with
    | none => rw [hl] at h; simp at h
    | some r =>
      obtain ⟨o, x⟩ := r
      rw [hl] at h
      simp only [Prod.mk.injEq, and_true] at h
      obtain ⟨hs, ho⟩ := h
      have sl := shareLoop_sends (O := O) a me size 1 [] 0 o x hl
      refine ⟨a, rfl, by rw [← hs], by rw [← hs], ?_, ?_⟩
      · rw [← ho]; exact List.mem_append_right _ (List.mem_singleton.2 rfl)
      · intro i hi hne
        rw [← ho]
        apply List.mem_append_left
        have := sl.2 (i + 1) (by omega) (by omega) (by simpa using hne)
        simpa using this

/-- the honest-dealer record a receiver `rcv` derives from the dealer's polynomial -/
def honestOf (size threshold : Nat) (a : List Nat) (L : OpsLaws O size threshold a) (rcv : Nat) (hr : rcv < size) :
    Honest O :=
  { v0 := O.vecOfPoly size a, vb := O.vecBytes a, x0 := O.polyEval a (rcv + 1),
    sb := tagShare :: O.writeScalar (O.polyEval a (rcv + 1)), me := rcv, shareOk := L.shareOk rcv hr }

/-- **a receiver accepts what the honest dealer emits**: the dealer's broadcast and the private message addressed to
    `rcv` are classified, in every state of `rcv`'s instance, as the dealer's vector and `rcv`'s share, and both are
    deliveries an honest dealer can cause (`AllowedK`) - the round-one content of `OwnNet`. The receiver's share must
    not be zero (a zero share is refused by the reader, as in the code: probability 2^-255 for an honest dealer) -/
theorem emission_allowed (size threshold dealer rcv : Nat) (hne : rcv ≠ dealer) (hr : rcv < size) (a : List Nat)
    (L : OpsLaws O size threshold a) (hx : O.polyEval a (rcv + 1) ≠ 0) (ct : Bool) (t : St O)
    (ht : CfgCT (fresh O size threshold rcv dealer) ct t) :
    classify t (.bcast dealer (tagVerifVec :: O.vecBytes a)) = .vec (O.vecBytes a) ∧
    AllowedK (honestOf size threshold a L rcv hr) t (.vec (O.vecBytes a)) ∧
    classify t (.priv dealer (tagShare :: O.writeScalar (O.polyEval a (rcv + 1)))) =
      .share (tagShare :: O.writeScalar (O.polyEval a (rcv + 1))) ∧
    AllowedK (honestOf size threshold a L rcv hr) t (.share (tagShare :: O.writeScalar (O.polyEval a (rcv + 1)))) := by
  obtain ⟨h1, h2, h3, h4, _⟩ := ht
  have e1 : t.me = rcv := h1
  have e2 : t.dealer = dealer := h2
  have e3 : t.size = size := h3
  have e4 : t.threshold = threshold := h4
  refine ⟨?_, ⟨rfl, ?_⟩, ?_, ⟨rfl, ?_⟩⟩
  · exact classify_vec t dealer e2.symm (by rw [e1]; exact hne) _
  · show parseVec t (O.vecBytes a) = some (O.vecOfPoly size a)
    unfold parseVec
    rw [e4, e3, if_neg (fun hh => hh L.vecLen)]
    exact L.vecRead
  · exact classify_share t dealer e2.symm (by rw [e1]; exact hne) _
  · show parseShare O (tagShare :: O.writeScalar (O.polyEval a (rcv + 1))) = some (O.polyEval a (rcv + 1))
    unfold parseShare
    rw [if_neg (by simp), if_neg (by simp [L.shareLen])]
    exact L.shareRead _ hx

end Proofs.DkgAgree
