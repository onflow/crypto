import Mathlib.NumberTheory.LucasPrimality
import Proofs.PowMod

/-! Pratt certificates: a number is prime by Lucas' test, given a witness and the factorisation of its predecessor
into numbers that are prime by trial division or by a further line of the certificate.  `certOk` is the whole check
as one Boolean, which the kernel evaluates on the certificates of `Proofs/Primes.lean`; `pratt_step` is the single line with the
powers taken by the model's `powMod`. -/

namespace Proofs.Primes
open Model Proofs.PowMod

theorem lucas_nat (p a : ℕ) (fs : List (ℕ × ℕ)) (hp : 1 < p)
    (hprod : (fs.map (fun qe => qe.1 ^ qe.2)).prod = p - 1)
    (hprimes : ∀ qe ∈ fs, Nat.Prime qe.1)
    (h1 : a ^ (p - 1) % p = 1)
    (h2 : ∀ qe ∈ fs, a ^ ((p - 1) / qe.1) % p ≠ 1) :
    Nat.Prime p := by
  refine lucas_primality p (a : ZMod p) ((pow_mod_eq_one_iff hp).1 h1) ?_
  intro q hq hdvd
  rw [← hprod] at hdvd
  obtain ⟨x, hx, hqx⟩ := (Prime.dvd_prod_iff hq.prime).1 hdvd
  obtain ⟨qe, hqe, rfl⟩ := List.mem_map.1 hx
  rw [(Nat.prime_dvd_prime_iff_eq hq (hprimes qe hqe)).1 (hq.prime.dvd_of_dvd_pow hqx)]
  exact fun h => h2 qe hqe ((pow_mod_eq_one_iff hp).2 h)

/-- The fuel `p` of `powModB` only has to be at least the exponent (`powModB_eq`); the recursion ends when the
exponent, divided by 256 at each step, reaches 0. -/
def lucasTest (p a : ℕ) (fs : List (ℕ × ℕ)) : Bool :=
  decide (1 < p) && (fs.map fun qe => qe.1 ^ qe.2).prod == p - 1 && powModB p a p (p - 1) == 1 &&
    fs.all fun qe => powModB p a p ((p - 1) / qe.1) != 1

theorem prime_of_lucasTest {p a : ℕ} {fs : List (ℕ × ℕ)} (h : lucasTest p a fs = true)
    (hf : ∀ qe ∈ fs, Nat.Prime qe.1) : Nat.Prime p := by
  simp only [lucasTest, Bool.and_eq_true, decide_eq_true_eq, beq_iff_eq, List.all_eq_true, bne_iff_ne] at h
  obtain ⟨⟨⟨hp, hprod⟩, h1⟩, h2⟩ := h
  rw [powModB_eq _ _ _ _ (Nat.sub_le _ _)] at h1
  refine lucas_nat p a fs hp hprod hf h1 fun qe hqe => ?_
  rw [← powModB_eq p a p _ ((Nat.div_le_self _ _).trans (Nat.sub_le _ _))]
  exact h2 qe hqe

def noDivisor (q : ℕ) : ℕ → ℕ → Bool
  | 0, _ => false
  | fuel + 1, d => decide (q < d * d) || (q % d != 0 && noDivisor q fuel (d + 1))

theorem noDivisor_sound (q : ℕ) : ∀ fuel d, noDivisor q fuel d = true → ∀ m, d ≤ m → m * m ≤ q → ¬ m ∣ q
  | fuel + 1, d, h, m, hdm, hmq => by
    simp only [noDivisor, Bool.or_eq_true, decide_eq_true_eq, Bool.and_eq_true, bne_iff_ne] at h
    rcases h with h | ⟨h0, h⟩
    · exact absurd (Nat.mul_le_mul hdm hdm) (by omega)
    · rcases Nat.eq_or_lt_of_le hdm with rfl | hlt
      · exact fun hd => h0 (Nat.mod_eq_zero_of_dvd hd)
      · exact noDivisor_sound q fuel (d + 1) h m hlt hmq

/-- the later lines are searched before trial division is tried: dividing a large factor takes long -/
def certOk : List (ℕ × ℕ × List (ℕ × ℕ)) → Bool
  | [] => true
  | (p, a, fs) :: rest => lucasTest p a fs && certOk rest &&
      fs.all fun qe => (rest.any fun l => l.1 == qe.1) || (decide (2 ≤ qe.1) && noDivisor qe.1 qe.1 2)

theorem certOk_sound : ∀ c, certOk c = true → ∀ l ∈ c, Nat.Prime l.1
  | (p, a, fs) :: rest, h, l, hl => by
    simp only [certOk, Bool.and_eq_true, List.all_eq_true, Bool.or_eq_true, decide_eq_true_eq, List.any_eq_true,
      beq_iff_eq] at h
    obtain ⟨⟨ht, hrest⟩, hfs⟩ := h
    have ih := certOk_sound rest hrest
    rcases List.mem_cons.1 hl with rfl | hl
    · refine prime_of_lucasTest ht fun qe hqe => ?_
      rcases hfs qe hqe with ⟨l, hl, hlq⟩ | ⟨h2, hd⟩
      · exact hlq ▸ ih l hl
      · exact Nat.prime_def_le_sqrt.2 ⟨h2, fun m hm hms => noDivisor_sound _ _ _ hd m hm (Nat.le_sqrt.1 hms)⟩
    · exact ih l hl

theorem prime_of_cert (p a : ℕ) (fs : List (ℕ × ℕ)) (rest : List (ℕ × ℕ × List (ℕ × ℕ)))
    (h : certOk ((p, a, fs) :: rest) = true) : Nat.Prime p :=
  certOk_sound _ h _ List.mem_cons_self

theorem pratt_step (p a : ℕ) (fs : List (ℕ × ℕ)) (hp : 1 < p) (hbits : p < 2 ^ 800)
    (hprod : (fs.map (fun qe => qe.1 ^ qe.2)).prod = p - 1)
    (hprimes : ∀ qe ∈ fs, Nat.Prime qe.1)
    (h1 : powMod a (p - 1) p = 1)
    (h2 : ∀ qe ∈ fs, powMod a ((p - 1) / qe.1) p ≠ 1) :
    Nat.Prime p := by
  have hb : p - 1 < 2 ^ 800 := by omega
  refine lucas_nat p a fs hp hprod hprimes (by rw [← powMod_eq a _ p hp hb]; exact h1) fun qe hqe => ?_
  rw [← powMod_eq a _ p hp (lt_of_le_of_lt (Nat.div_le_self _ _) hb)]
  exact h2 qe hqe

end Proofs.Primes
