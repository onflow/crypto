import Proofs.AbsBls
import Proofs.BlsFeldman
import Mathlib.Algebra.Module.ZMod

/-! The abstract pairing setting of the BLS theorems (`PairingGroups`, `Codec` of `Proofs/AbsBls.lean`) instantiated
with the groups the executable model computes in:

* `E1` is Mathlib's group of the curve `y² = x³ + 4` over `ZMod p` - the group `Model.Curve` computes in
  (`Proofs/CurveGroup.lean`);
* `G1`, `G2` are the `r`-torsion subgroups of that group and of the group of `y² = x³ + 4(1+u)` over `F_p²`, with their
  `ZMod r`-module structures; membership is what `Bls.inG1` decides (`inG1_iff_torsion`, `inG2_iff_torsion` in `Proofs/BlsPoints2.lean`);
* the codec is `Bls.readE1` / `Bls.writeE1`, its three laws are the codec theorems of C05;
* the one thing left abstract is the pairing: any `ZMod r`-bilinear map on these two subgroups that is non-degenerate
  at the generator of `G2` (BLST's optimal ate pairing is one; that is the part the correspondence run covers).
-/

namespace Proofs.BlsConcrete
open Model Model.Curve WeierstrassCurve.Affine

def torsion (n : ℕ) (G : Type*) [AddCommGroup G] : AddSubgroup G := (nsmulAddMonoidHom n : G →+ G).ker

theorem mem_torsion {n : ℕ} {G : Type*} [AddCommGroup G] (x : G) : x ∈ torsion n G ↔ n • x = 0 := by
  unfold torsion; rw [AddMonoidHom.mem_ker]; rfl

noncomputable instance torsionModule (n : ℕ) (G : Type*) [AddCommGroup G] : Module (ZMod n) (torsion n G) :=
  AddCommGroup.zmodModule (fun x => by
    apply Subtype.ext
    rw [AddSubgroup.coe_nsmul]
    exact (mem_torsion x.1).1 x.2)

theorem torsion_smul {n : ℕ} [NeZero n] {G : Type*} [AddCommGroup G] (c : ZMod n) (x : torsion n G) :
    ((c • x : torsion n G) : G) = c.val • (x : G) := by
  conv_lhs => rw [← ZMod.natCast_zmod_val c, Nat.cast_smul_eq_nsmul]
  rw [AddSubgroup.coe_nsmul]

section bls
open Proofs.CurveGroup Proofs.CurveInst

local notation "r" => Model.Bls.r

abbrev E1P := (W Bls.p 0 4).Point
abbrev E2P := (Proofs.CurveGroup2.W Bls.p (0, 0) (4, 4)).Point
abbrev G1 := torsion r E1P
abbrev G2 := torsion r E2P

noncomputable def g2 : G2 :=
  ⟨Proofs.CurveGroup2.toPoint Bls.p (0, 0) (4, 4) Bls.g2, (mem_torsion _).2 Proofs.BlsFeldman.rG⟩

noncomputable def mkG1 (H : Bls.P1) (hv : Valid Bls.p 0 4 H) (hG : Bls.inG1 H = true) : G1 :=
  ⟨toPoint Bls.p 0 4 H, (mem_torsion _).2 ((inG1_iff_torsion H hv).1 hG)⟩

/-- `E1_read_bytes` of the model, into the group of the curve -/
noncomputable def decodeF (b : Model.Bytes) : Option E1P :=
  match Bls.readE1 b with
  | .ok Q => some (toPoint Bls.p 0 4 Q)
  | .error _ => none

/-- `E1_write_bytes` of the model, from the group of the curve -/
def encodeF (x : E1P) : Model.Bytes := Bls.writeE1 (ofPoint Bls.p 0 4 x)

theorem dec_enc (x : E1P) : decodeF (encodeF x) = some x := by
  unfold decodeF encodeF
  rw [Proofs.E1Codec.e1_roundtrip _ ((valid_iff_codec _).2 (valid_ofPoint Bls.p 0 4 x))]
  show some _ = some _
  rw [toPoint_ofPoint]

theorem decodeF_some (b : Model.Bytes) (x : E1P) (h : decodeF b = some x) :
    ∃ Q, Bls.readE1 b = .ok Q ∧ toPoint Bls.p 0 4 Q = x ∧ Valid Bls.p 0 4 Q := by
  unfold decodeF at h
  cases hr : Bls.readE1 b with
  | error e => rw [hr] at h; cases h
  | ok Q =>
    rw [hr] at h
    exact ⟨Q, rfl, Option.some.inj h, (valid_iff_codec Q).1 (Proofs.E1Codec.e1_accepts_valid b Q hr)⟩

theorem enc_dec (b : Model.Bytes) (x : E1P) (h : decodeF b = some x) : encodeF x = b := by
  obtain ⟨Q, hr, hx, hv⟩ := decodeF_some b x h
  unfold encodeF
  rw [← hx, ofPoint_toPoint Bls.p 0 4 bls_Δ Q hv]
  exact Proofs.E1Codec.e1_canonical b Q hr

theorem dec_len (b : Model.Bytes) (x : E1P) (h : decodeF b = some x) : b.length = 48 := by
  obtain ⟨Q, hr, _, _⟩ := decodeF_some b x h
  unfold Bls.readE1 at hr
  by_cases hl : b.length ≠ 48
  · rw [if_pos hl] at hr; cases hr
  · exact Decidable.not_not.1 hl

instance : NeZero r := ⟨(Fact.out : Nat.Prime r).ne_zero⟩

theorem encode_smul (sk : ZMod r) (H : Bls.P1) (hv : Valid Bls.p 0 4 H) (hG : Bls.inG1 H = true) :
    encodeF ((sk • mkG1 H hv hG : G1) : E1P) = Bls.signPoint sk.val H := by
  unfold encodeF Bls.signPoint
  rw [torsion_smul, mul_E1 _ (Bls.val_bits sk) H hv]
  rfl

theorem g2_ne_zero : g2 ≠ 0 := by
  intro h
  have h0 : Proofs.CurveGroup2.toPoint Bls.p (0, 0) (4, 4) Bls.g2 =
      Proofs.CurveGroup2.toPoint Bls.p (0, 0) (4, 4) none := congrArg Subtype.val h
  exact absurd (Proofs.CurveGroup2.toPoint_inj Bls.p (0, 0) (4, 4) Proofs.CurveInst2.bls2_Δ _ none
    Proofs.CurveInst2.bls_g2_valid True.intro h0) (by decide)

theorem smul_g2 (sk : ZMod r) :
    ((sk • g2 : G2) : E2P) = Proofs.CurveGroup2.toPoint Bls.p (0, 0) (4, 4) (Bls.publicKeyOf sk.val) := by
  unfold Bls.publicKeyOf
  rw [torsion_smul, Proofs.CurveInst2.mul_g2 _ (Bls.val_bits sk), Proofs.CurveGroup2.toPoint_ofPoint]
  rfl

variable (GT : Type) [AddCommGroup GT] [Module (ZMod r) GT] (e : G1 →ₗ[ZMod r] G2 →ₗ[ZMod r] GT)
  (nd : ∀ s : G1, e s g2 = 0 → s = 0)

open Classical in
/-- **the pairing setting on the groups of the executable model**: everything is concrete but the pairing `e` -/
noncomputable def concrete : PairingGroups r where
  E1 := E1P
  G1 := G1
  G2 := G2
  GT := GT
  ι := (torsion r E1P).subtype
  ι_inj := Subtype.coe_injective
  toG1 := fun x => if h : r • x = 0 then some ⟨x, (mem_torsion x).2 h⟩ else none
  toG1_iff := by
    intro x s
    constructor
    · intro h
      split at h
      · cases h; rfl
      · cases h
    · rintro rfl
      exact dif_pos ((mem_torsion s.1).1 s.2)
  e := e
  g2 := g2
  nondeg_g2 := nd
  decG2 := Classical.decEq _
  decGT := Classical.decEq _

/-- `Bls.readE1` / `Bls.writeE1` as the codec of the abstract setting: its laws are the codec theorems -/
noncomputable def codec : Codec (concrete GT e nd) where
  decode := decodeF
  encode := encodeF
  dec_enc := dec_enc
  enc_dec := enc_dec
  len := dec_len

end bls

end Proofs.BlsConcrete
