import Proofs.DkgAgree

/-! No honest participant is ever blamed by another honest participant (Feldman-VSS-Qual, network level).

An honest participant `A` other than the dealer broadcasts one thing only, its complaint, at most once and never
after the second timeout (`emission_once`). Another honest participant `B` blames (flags or disqualifies) only the
sender of the message it is handling or the dealer (`step_noblame_other`), and handling `A`'s single complaint blames
nobody but possibly the dealer (`step_noblame_complaint`). Hence nothing `B` outputs during a round targets `A` (`run_noblame`), nor during a whole
execution (`allOuts_noblame`, `honest_never_blamed`), whatever the dealer and the others do and in whatever order messages arrive. -/

namespace Proofs.DkgAgree
open Model Model.Dkg Proofs.DkgCommute
variable {O : Ops}

/-- the callback blames participant `A` -/
def blames (A : Nat) : Out → Bool
  | .disq i => i == A
  | .flag i => i == A
  | _ => false

/-- no `Disqualify` / `FlagMisbehavior` callback among `outs` targets `A` -/
def NoBlame (A : Nat) (outs : List Out) : Prop := outs.all (fun o => !blames A o) = true

theorem NoBlame.nil (A : Nat) : NoBlame A [] := rfl

theorem NoBlame.append {A : Nat} {o1 o2 : List Out} (h1 : NoBlame A o1) (h2 : NoBlame A o2) : NoBlame A (o1 ++ o2) := by
  unfold NoBlame at *; simp [List.all_append, h1, h2]

theorem Emits.noBlame {s : St O} {o : Nat} {r : St O × List Out} (h : Emits s o r) (A : Nat) (hA : A ≠ s.dealer)
    (ho : A ≠ o) : NoBlame A r.2 := by
  obtain ⟨tl, e, ht⟩ := h
  have h1 : (s.dealer == A) = false := by simpa using (Ne.symm hA)
  have h2 : (o == A) = false := by simpa using (Ne.symm ho)
  rw [e]
  refine NoBlame.append ?_ ?_
  · split
    · simp [NoBlame, cpair, blames, h1]
    · rfl
  · unfold NoBlame
    rw [List.all_eq_true]
    intro x hx
    rcases ht x hx with rfl | rfl | rfl | ⟨_, _, m, rfl⟩ <;> simp [blames, h1, h2]

theorem step_noblame_other (s : St O) (e : Dl) (A : Nat) (hA : A ≠ s.dealer) (ho : A ≠ e.sender) :
    NoBlame A (stepOuts s e) := by
  cases e with
  | bcast o m => exact (bcast_emits s o m).noBlame A hA ho
  | priv o m => exact (priv_emits s o m).noBlame A hA ho

theorem priv_noblame_nondealer (s : St O) (A : Nat) (m : Bytes) (hA : A ≠ s.dealer) : NoBlame A (stepOuts s (.priv A m)) :=
  privBody_cases (P := fun r => NoBlame A r.2) s A m (fun _ => rfl) (fun _ => by rw [rs_pair, if_pos hA]; rfl)

theorem step_noblame_complaint (s : St O) (A : Nat) (hA : A ≠ s.dealer) (hme : s.me ≠ s.dealer)
    (hct : s.complaintsTimeout = false) (hr : recvAt s A = false) :
    NoBlame A (stepOuts s (zCmpl A s.dealer)) := by
  show NoBlame A (FvssQ.bcastBody s A (tagComplaint :: [UInt8.ofNat s.dealer])).2
  rw [bcmpl_eq]
  split
  · rfl
  split
  · rfl
  refine rc_cases (P := fun r => NoBlame A r.2) s A _ (fun h => by rw [hct] at h; cases h) rfl (fun h => absurd h hA)
    (fun _ _ _ h => absurd h hme) (fun _ _ _ _ => rfl) (fun c hf hc => ?_) (fun c _ _ _ _ _ => ?_) (fun _ _ _ => rfl)
  · unfold recvAt at hr; rw [hf] at hr; rw [show c.received = false from hr] at hc; cases hc
  · show NoBlame A (if _ then _ else _)
    split
    · simp [NoBlame, blames, Ne.symm hA]
    · rfl

theorem recvAt_step_other (s : St O) (e : Dl) (A : Nat) (hA : A ≠ s.me) (h : e.chan ≠ (A, false)) :
    recvAt (step s e) A = recvAt s A := by
  cases e with
  | bcast o m => exact (bcast_marks s o m).only A (fun hk => hk.elim hA (fun e => h (by rw [e]; rfl)))
  | priv o m => exact (priv_marks s o m).only A hA

theorem recvAt_tstep (s : St O) (A : Nat) (hA : A ≠ s.me) : recvAt (tstep s) A = recvAt s A :=
  (timeout_marks s).only A hA

/-- all callbacks and messages produced while the deliveries of a round are handled -/
def runOuts (s : St O) : List Dl → List Out
  | [] => []
  | e :: l => stepOuts s e ++ runOuts (step s e) l

theorem stream_cons_ne (e : Dl) (t : List Dl) (c : Nat × Bool) (h : e.chan ≠ c) : stream (e :: t) c = stream t c := by
  unfold stream
  rw [List.filter_cons]
  have : (e.chan == c) = false := by simpa using h
  simp [this]

theorem stream_cons_eq (e : Dl) (t : List Dl) (c : Nat × Bool) (h : e.chan = c) : stream (e :: t) c = e :: stream t c := by
  unfold stream
  rw [List.filter_cons]
  have : (e.chan == c) = true := by simpa using h
  simp [this]

theorem run_noblame (s : St O) (inv : Inv s) (A : Nat) (hA : A ≠ s.dealer) (hAme : A ≠ s.me) (l : List Dl)
    (hl : stream l (A, false) = [] ∨
      (stream l (A, false) = [zCmpl A s.dealer] ∧ recvAt s A = false ∧ s.complaintsTimeout = false)) :
    NoBlame A (runOuts s l) ∧ (stream l (A, false) = [] → recvAt (runList s l) A = recvAt s A) := by
  induction l generalizing s with
  | nil => exact ⟨NoBlame.nil A, fun _ => rfl⟩
  | cons e t ih =>
    have c := step_cfg_any s e
    have inv' := inv_step s inv e
    show NoBlame A (stepOuts s e ++ runOuts (step s e) t) ∧ (_ → recvAt (runList (step s e) t) A = _)
    by_cases hc : e.chan = (A, false)
    · -- this delivery is A's complaint
      rw [stream_cons_eq e t _ hc] at hl
      rcases hl with h0 | ⟨h1, hr, hct⟩
      · cases h0
      · have he : e = zCmpl A s.dealer := (List.cons.inj h1).1
        have ht : stream t (A, false) = [] := (List.cons.inj h1).2
        have r := ih (step s e) inv' (by rw [c.dealer]; exact hA) (by rw [c.me]; exact hAme) (Or.inl ht)
        refine ⟨NoBlame.append ?_ r.1, ?_⟩
        · rw [he]; exact step_noblame_complaint s A hA inv.hme hct hr
        · intro h; rw [stream_cons_eq e t _ hc] at h; cases h
    · rw [stream_cons_ne e t _ hc] at hl ⊢
      have hrec := recvAt_step_other s e A hAme hc
      have hl' : stream t (A, false) = [] ∨ (stream t (A, false) = [zCmpl A (step s e).dealer] ∧
          recvAt (step s e) A = false ∧ (step s e).complaintsTimeout = false) := by
        rcases hl with h0 | ⟨h1, hr, hct⟩
        · exact Or.inl h0
        · exact Or.inr ⟨by rw [c.dealer]; exact h1, by rw [hrec]; exact hr, c.complaintsTimeout.trans hct⟩
      have r := ih (step s e) inv' (by rw [c.dealer]; exact hA) (by rw [c.me]; exact hAme) hl'
      refine ⟨NoBlame.append ?_ r.1, fun h => by rw [r.2 h, hrec]⟩
      -- the delivery itself: from another sender, or a private message of A
      by_cases hs : A = e.sender
      · cases e with
        | priv o m =>
          have : A = o := hs
          subst this
          exact priv_noblame_nondealer s A m hA
        | bcast o m =>
          exfalso; apply hc
          have : A = o := hs
          rw [this]; rfl
      · exact step_noblame_other s e A hA hs

theorem timeout_noblame (s : St O) (A : Nat) (hA : A ≠ s.dealer) :
    NoBlame A (FvssQ.timeoutBody s).2 ∧ NoBlame A (FvssQ.settle s).2 :=
  ⟨(timeout_emits s).noBlame A hA hA, (settle_emits s).noBlame A hA hA⟩

theorem ownRecv_mono_step (s : St O) (e : Dl) (h : ownRecv s = true) : ownRecv (step s e) = true := by
  unfold ownRecv; rw [(step_cfg_any s e).me]; exact ev_marks s (.dl e) _ h

theorem ownRecv_mono_tstep (s : St O) (h : ownRecv s = true) : ownRecv (tstep s) = true := by
  unfold ownRecv; rw [tstep_me]; exact ev_marks s .timeout _ h

/-- after the first timeout no delivery makes the participant complain: the share and the vector come too late, and
    nothing else touches the own entry -/
theorem ownRecv_step_late (s : St O) (e : Dl) (hst : s.sharesTimeout = true) : ownRecv (step s e) = ownRecv s := by
  refine ownRecv_of (step_cfg_any s e).me ?_
  cases e with
  | bcast o m =>
    exact bcastBody_cases (P := fun r => recvAt r.1 s.me = recvAt s s.me) s o m (fun _ => rfl)
      (fun _ _ => by split <;> rfl) (fun _ _ => by rw [rv_noop s o _ (Or.inl hst)])
      (fun ho _ _ => (rc_marks s o _).only _ ho) (fun _ _ => (ra_marks s o _).only _ id)
  | priv o m =>
    exact privBody_cases (P := fun r => recvAt r.1 s.me = recvAt s s.me) s o m (fun _ => rfl)
      (fun _ => by rw [rs_noop s o m (Or.inl hst)])

theorem ownRecv_runList_late (s : St O) (l : List Dl) (hst : s.sharesTimeout = true) :
    ownRecv (runList s l) = ownRecv s := by
  induction l generalizing s with
  | nil => rfl
  | cons e t ih =>
    show ownRecv (runList (step s e) t) = _
    rw [ih (step s e) ((step_cfg_any s e).sharesTimeout.trans hst), ownRecv_step_late s e hst]

theorem ownRecv_mono_runList (s : St O) (l : List Dl) (h : ownRecv s = true) : ownRecv (runList s l) = true :=
  runList_keeps (I := fun s => ownRecv s = true) ownRecv_mono_step s h l

theorem roundOuts_eq (a : St O) (inv : Inv a) (l : List Dl) :
    roundOuts a l = if ownRecv a then [] else if ownRecv (runList a l) then [cmplMsg a.dealer] else [] := by
  induction l generalizing a with
  | nil =>
    show [] = if ownRecv a then [] else if ownRecv a then [cmplMsg a.dealer] else []
    cases ownRecv a <;> rfl
  | cons e t ih =>
    have c := step_cfg_any a e
    have g : Good a (step a e, stepOuts a e) := step_good a inv.hme e
    unfold Good at g
    show bcasts (stepOuts a e) ++ roundOuts (step a e) t = if ownRecv a then [] else if ownRecv (runList (step a e) t) then _ else []
    rw [g, ih (step a e) (inv_step a inv e), c.dealer]
    cases h0 : ownRecv a with
    | true => rw [ownRecv_mono_step a e h0]; rfl
    | false =>
      cases h1 : ownRecv (step a e) with
      | true => rw [ownRecv_mono_runList _ t h1]; rfl
      | false => rfl

theorem timeoutOuts_eq (a : St O) :
    timeoutOuts a = if ownRecv a then [] else if ownRecv (tstep a) then [cmplMsg a.dealer] else [] := by
  have g : Good a (tstep a, (FvssQ.timeoutBody a).2) := tstep_good a
  exact g

theorem round_end (s : St O) (inv : Inv s) (l : List Dl) :
    Inv (tstep (runList s l)) ∧ (tstep (runList s l)).me = s.me ∧ (tstep (runList s l)).dealer = s.dealer :=
  ⟨inv_tstep _ (inv_runList s inv l), (tstep_me _).trans (runList_cfg_any s l).me,
    (tstep_dealer _).trans (runList_cfg_any s l).dealer⟩

theorem complaint_once (a : St O) (inv : Inv a) (o0 : ownRecv a = false) (r1 r2 r3 : List Dl) :
    bR3 a r1 r2 r3 = [] ∧
    ((bR1 a r1 = [] ∧ bR2 a r1 r2 = []) ∨ (bR1 a r1 = [cmplMsg a.dealer] ∧ bR2 a r1 r2 = []) ∨
     (bR1 a r1 = [] ∧ bR2 a r1 r2 = [cmplMsg a.dealer])) := by
  obtain ⟨j1, _, d1'⟩ := round_end a inv r1
  obtain ⟨j2, _, _⟩ := round_end _ j1 r2
  have st1 : (tstep (runList a r1)).sharesTimeout = true := tstep_st _
  have st2 : (runList (tstep (runList a r1)) r2).sharesTimeout = true := (runList_cfg_any _ r2).sharesTimeout.trans st1
  have late2 := ownRecv_runList_late _ r2 st1
  have late3 := ownRecv_runList_late (tstep (runList (tstep (runList a r1)) r2)) r3 (tstep_st _)
  -- the second timeout never builds a complaint
  have t2 : ownRecv (tstep (runList (tstep (runList a r1)) r2)) = ownRecv (runList (tstep (runList a r1)) r2) := by
    apply tstep_cases (P := fun t => ownRecv t = ownRecv _) <;> intros
    case noShare hst _ _ => rw [st2] at hst; cases hst
    all_goals exact ownRecv_congr rfl rfl
  unfold bR3 bR2 bR1
  rw [roundOuts_eq _ inv, roundOuts_eq _ j1, roundOuts_eq _ j2, timeoutOuts_eq, timeoutOuts_eq, late3, t2, late2, o0,
    (runList_cfg_any a r1).dealer, d1']
  cases h1 : ownRecv (runList a r1) with
  | true =>
    rw [ownRecv_mono_tstep _ h1]
    exact ⟨rfl, Or.inr (Or.inl ⟨rfl, rfl⟩)⟩
  | false =>
    cases h2 : ownRecv (tstep (runList a r1)) with
    | true => exact ⟨rfl, Or.inr (Or.inr ⟨rfl, rfl⟩)⟩
    | false => exact ⟨rfl, Or.inl ⟨rfl, rfl⟩⟩

/-- **an honest participant broadcasts at most one message in the whole execution, its complaint, in the first round
    or at the first timeout (then it lands in the second round); nothing in the third round** -/
theorem emission_once (size threshold me dealer : Nat) (hne : me ≠ dealer) (r1 r2 r3 : List Dl) :
    bR3 (fresh O size threshold me dealer) r1 r2 r3 = [] ∧
    ((bR1 (fresh O size threshold me dealer) r1 = [] ∧ bR2 (fresh O size threshold me dealer) r1 r2 = []) ∨
     (bR1 (fresh O size threshold me dealer) r1 = [cmplMsg dealer] ∧ bR2 (fresh O size threshold me dealer) r1 r2 = []) ∨
     (bR1 (fresh O size threshold me dealer) r1 = [] ∧ bR2 (fresh O size threshold me dealer) r1 r2 = [cmplMsg dealer])) :=
  complaint_once _ (inv_fresh size threshold me dealer hne) rfl r1 r2 r3

/-- every callback and message an honest participant produces during the three rounds, the two timeouts and `End` -/
def allOuts (s : St O) (r1 r2 r3 : List Dl) : List Out :=
  runOuts s r1 ++ (FvssQ.timeoutBody (runList s r1)).2 ++
  runOuts (tstep (runList s r1)) r2 ++ (FvssQ.timeoutBody (runList (tstep (runList s r1)) r2)).2 ++
  runOuts (tstep (runList (tstep (runList s r1)) r2)) r3 ++ (FvssQ.settle (final s r1 r2 r3)).2

theorem tstep_ct_first (s : St O) (h1 : s.sharesTimeout = false) (h2 : s.complaintsTimeout = false) :
    (tstep s).complaintsTimeout = false := by
  apply tstep_cases (P := fun t => t.complaintsTimeout = false) s <;> intros
  case noShare => rw [(bc_cfg (stFlag s)).complaintsTimeout]; exact h2
  case disq2 hst => rw [h1] at hst; cases hst
  case many hst _ => rw [h1] at hst; cases hst
  case second hst _ => rw [h1] at hst; cases hst
  all_goals exact h2

theorem allOuts_noblame (s : St O) (inv : Inv s) (A : Nat) (hA : A ≠ s.dealer) (hAme : A ≠ s.me)
    (hst : s.sharesTimeout = false) (hct : s.complaintsTimeout = false) (hr : recvAt s A = false)
    (r1 r2 r3 : List Dl) (n3 : stream r3 (A, false) = [])
    (n12 : (stream r1 (A, false) = [] ∧ stream r2 (A, false) = []) ∨
      (stream r1 (A, false) = [zCmpl A s.dealer] ∧ stream r2 (A, false) = []) ∨
      (stream r1 (A, false) = [] ∧ stream r2 (A, false) = [zCmpl A s.dealer])) :
    NoBlame A (allOuts s r1 r2 r3) := by
  obtain ⟨j1, mm1', dl1'⟩ := round_end s inv r1
  obtain ⟨j2, mm2', dl2'⟩ := round_end _ j1 r2
  have me1 := runList_cfg_any s r1
  have hA1 : A ≠ (tstep (runList s r1)).dealer := by rw [dl1']; exact hA
  have hA2 : A ≠ (tstep (runList (tstep (runList s r1)) r2)).dealer := by rw [dl2', dl1']; exact hA
  have R1 := run_noblame s inv A hA hAme r1
  have R2 := run_noblame _ j1 A hA1 (by rw [mm1']; exact hAme) r2
  have R3 := run_noblame _ j2 A hA2 (by rw [mm2', mm1']; exact hAme) r3 (Or.inl n3)
  have T1 := timeout_noblame (runList s r1) A (by rw [me1.dealer]; exact hA)
  have T2 := timeout_noblame (runList (tstep (runList s r1)) r2) A (by rw [(runList_cfg_any _ r2).dealer]; exact hA1)
  have T3 := timeout_noblame (final s r1 r2 r3) A (by unfold final; rw [(runList_cfg_any _ r3).dealer]; exact hA2)
  unfold allOuts
  rcases n12 with ⟨a1, a2⟩ | ⟨a1, a2⟩ | ⟨a1, a2⟩
  · exact (((((R1 (Or.inl a1)).1.append T1.1).append (R2 (Or.inl a2)).1).append T2.1).append R3.1).append T3.2
  · exact (((((R1 (Or.inr ⟨a1, hr, hct⟩)).1.append T1.1).append (R2 (Or.inl a2)).1).append T2.1).append R3.1).append T3.2
  · -- the complaint arrives in round two: the entry of `A` is still unmarked, the second timeout has not passed
    have rr1' : recvAt (tstep (runList s r1)) A = false := by
      rw [recvAt_tstep _ A (by rw [me1.me]; exact hAme), (R1 (Or.inl a1)).2 a1]; exact hr
    have ct1' := tstep_ct_first _ (me1.sharesTimeout.trans hst)
      (me1.complaintsTimeout.trans hct)
    exact (((((R1 (Or.inl a1)).1.append T1.1).append
      (R2 (Or.inr ⟨by rw [dl1']; exact a2, rr1', ct1'⟩)).1).append T2.1).append R3.1).append T3.2

/-- **no honest participant is ever blamed by another honest participant**: in an execution of Feldman-VSS-Qual,
    nothing the honest participant `mb` outputs (`Disqualify` / `FlagMisbehavior` callbacks during the three rounds,
    the timeouts and `End`) targets the honest participant `ma`, whatever the dealer and everybody else send and in
    whatever order `mb` and `ma` are delivered their messages — provided only that what `mb` receives from `ma` on
    the broadcast channel in each round is what `ma` broadcast in that round (reliable broadcast, round synchrony) -/
theorem honest_never_blamed (size threshold dealer ma mb : Nat) (hmad : ma ≠ dealer) (hmbd : mb ≠ dealer) (hab : ma ≠ mb)
    (ra1 ra2 ra3 rb1 rb2 rb3 : List Dl)
    (n1 : stream rb1 (ma, false) = (bR1 (fresh O size threshold ma dealer) ra1).map (Dl.bcast ma))
    (n2 : stream rb2 (ma, false) = (bR2 (fresh O size threshold ma dealer) ra1 ra2).map (Dl.bcast ma))
    (n3 : stream rb3 (ma, false) = (bR3 (fresh O size threshold ma dealer) ra1 ra2 ra3).map (Dl.bcast ma)) :
    NoBlame ma (allOuts (fresh O size threshold mb dealer) rb1 rb2 rb3) := by
  obtain ⟨e3, e12⟩ := emission_once (O := O) size threshold ma dealer hmad ra1 ra2 ra3
  rw [e3] at n3
  refine allOuts_noblame _ (inv_fresh size threshold mb dealer hmbd) ma hmad hab rfl rfl rfl rb1 rb2 rb3 n3 ?_
  rcases e12 with ⟨a1, a2⟩ | ⟨a1, a2⟩ | ⟨a1, a2⟩ <;> rw [a1] at n1 <;> rw [a2] at n2
  · exact Or.inl ⟨n1, n2⟩
  · exact Or.inr (Or.inl ⟨n1, n2⟩)
  · exact Or.inr (Or.inr ⟨n1, n2⟩)

end Proofs.DkgAgree
