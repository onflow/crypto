import Proofs.BlsFeldman
import Proofs.E2Codec
import Proofs.Bytes

/-! The reader of the verification vector of the BLS crypto record accepts what its writer produces, and derives the
public key shares of the same polynomial: `readVec t size (vecBytes a) = some (vecOfPoly size a)` for every
polynomial `a` of `t + 1` coefficients (below `2^800`) - codec round trip of `E2`, subgroup membership of multiples of
`g2`, and the Feldman identity. -/

namespace Proofs.BlsLaws
open Model Model.Curve Proofs.CurveGroup2 Proofs.CurveInst2 Proofs.BlsFeldman

theorem writeE2_length (P : Bls.P2) : (Bls.writeE2 P).length = 96 := by
  cases P with
  | none => rfl
  | some xy =>
    obtain ⟨x, y⟩ := xy
    have h : (natBE 48 x.1 ++ natBE 48 x.2).length = 96 := by
      rw [List.length_append, Model.natBE_length, Model.natBE_length]
    have e : Bls.writeE2 (some (x, y)) = match natBE 48 x.1 ++ natBE 48 x.2 with
        | [] => []
        | h :: t => (h ||| UInt8.ofNat (0x80 + 0x20 * Fp2.sign Bls.p y)) :: t := rfl
    rw [e]
    generalize natBE 48 x.1 ++ natBE 48 x.2 = l at h ⊢
    cases l with
    | nil => cases h
    | cons a t => exact h

theorem chunks_flatMap {α : Type} (enc : α → Bytes) (henc : ∀ x, (enc x).length = 96) :
    ∀ l : List α, Driver.Dkg.chunks 96 l.length (l.flatMap enc) = l.map enc
  | [] => rfl
  | x :: t => by
    show Driver.Dkg.chunks 96 (t.length + 1) (enc x ++ t.flatMap enc) = enc x :: t.map enc
    unfold Driver.Dkg.chunks
    rw [List.take_left' (henc x), List.drop_left' (henc x), chunks_flatMap enc henc t]

theorem mapM_map {α β γ : Type} (enc : α → β) (f : β → Option γ) (g : α → γ) :
    ∀ l : List α, (∀ x ∈ l, f (enc x) = some (g x)) → (l.map enc).mapM f = some (l.map g)
  | [], _ => rfl
  | x :: t, h => by
    rw [List.map_cons, List.mapM_cons, h x List.mem_cons_self,
      mapM_map enc f g t (fun y hy => h y (List.mem_cons_of_mem _ hy))]
    rfl

theorem inG2_gmul (c : ℕ) (hc : c < 2 ^ 800) : Bls.inG2 (Curve.mul Bls.E2 c Bls.g2) = true := by
  rw [mul_g2 c hc, Proofs.BlsConcrete.inG2_iff_torsion _ (valid_ofPoint ..), toPoint_ofPoint, smul_comm, rG, nsmul_zero]

theorem read_gmul (c : ℕ) (hc : c < 2 ^ 800) :
    (match Bls.readE2 (Bls.writeE2 (Curve.mul Bls.E2 c Bls.g2)) with
      | .ok P => if Bls.inG2 P then some P else none
      | .error _ => none) = some (Curve.mul Bls.E2 c Bls.g2) := by
  have hv : Valid Bls.p (0, 0) (4, 4) (Curve.mul Bls.E2 c Bls.g2) := by rw [mul_g2 c hc]; exact valid_ofPoint ..
  rw [Proofs.E2Codec.e2_roundtrip _ ((valid_iff_codec _).2 hv)]
  simp only []
  rw [if_pos (inG2_gmul c hc)]

/-- **the vector reader accepts the vector writer's output and derives the shares of the same polynomial** -/
theorem readVec_vecBytes (a : List ℕ) (ha : ∀ c ∈ a, c < 2 ^ 800) (t size : ℕ) (hlen : a.length = t + 1)
    (hs : size < 2 ^ 800) :
    Driver.Dkg.blsOps.readVec t size (Driver.Dkg.blsOps.vecBytes a) = some (Driver.Dkg.blsOps.vecOfPoly size a) := by
  show Driver.Dkg.readVec t size (a.flatMap fun c => Bls.writeE2 (Curve.mul Bls.E2 c Bls.g2)) = _
  unfold Driver.Dkg.readVec
  rw [← hlen, chunks_flatMap (fun c => Bls.writeE2 (Curve.mul Bls.E2 c Bls.g2)) (fun c => writeE2_length _) a]
  rw [mapM_map (fun c => Bls.writeE2 (Curve.mul Bls.E2 c Bls.g2)) _ (fun c => Curve.mul Bls.E2 c Bls.g2) a
    (fun c hc => read_gmul c (ha c hc))]
  cases a with
  | nil => simp at hlen
  | cons c0 rest =>
    simp only [Option.bind_eq_bind, Option.bind_some, List.map_cons, List.head?_cons, Option.pure_def]
    show some _ = some _
    congr 1
    show ({ a0 := _, ys := _ } : Driver.Dkg.Vec) = { a0 := _, ys := _ }
    congr 1
    apply List.map_congr_left
    intro i hi
    have hi' : i < size := List.mem_range.1 hi
    have := feldman (c0 :: rest) ha (i + 1) (by omega)
    rw [List.map_cons] at this
    exact this

end Proofs.BlsLaws
