import Model.Bytes

/-! Length and value of the little-endian byte image of a number. Core Lean only: `Props/C14.lean` states its theorems
without any library import (with Mathlib loaded `2 ^ 38` elaborates through another instance), so what it needs of the
byte lemmas lives here. -/

namespace Model

theorem natLE_length (k n : Nat) : (natLE k n).length = k := by
  induction k generalizing n with
  | zero => rfl
  | succ k ih => simp [natLE, ih]

theorem leNat_natLE (k n : Nat) : leNat (natLE k n) = n % 256 ^ k := by
  induction k generalizing n with
  | zero => simp [natLE, leNat, Nat.mod_one]
  | succ k ih =>
    simp only [natLE, leNat, ih]
    have h1 : (UInt8.ofNat (n % 256)).toNat = n % 256 := by
      simp [UInt8.toNat_ofNat']
    rw [h1, Nat.pow_succ, Nat.mul_comm (256 ^ k) 256, Nat.mod_mul]

end Model
