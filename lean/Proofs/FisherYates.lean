import Model.Prg
import Mathlib.Data.List.Basic
import Mathlib.Data.List.Nodup

/-! Fisher–Yates as a function of its choice vector: the inside-out loop of `Permutation` (`run`) and the swap loop
of `Samples`/`Shuffle` (`swaps`). The swap loop is injective in the choices, so the `n!/(n-m)!` choice vectors give
pairwise different ordered samples; that `run` is a bijection onto the arrangements is in
`Proofs/FisherYatesSurj.lean`, which continues this namespace. -/

namespace Proofs.FisherYates
open Model Model.Prg

/-- one step of the inside-out Fisher–Yates loop of `Permutation`: `items[i] = items[j]; items[j] = i` -/
def step (items : List Nat) (i j : Nat) : List Nat := setAt (setAt items i (items.getD j 0)) j i

def run : List Nat → Nat → List Nat → List Nat
  | [], _, items => items
  | j :: js, i, items => run js (i + 1) (step items i j)

/-- state before step `i`: positions below `i` hold values below `i`, the others still hold the initial 0 -/
def Inv (n i : Nat) (a : List Nat) : Prop :=
  a.length = n ∧ (∀ k (h : k < a.length), k < i → a[k] < i) ∧ (∀ k (h : k < a.length), i ≤ k → a[k] = 0)

@[simp] theorem step_length (a : List Nat) (i j : Nat) : (step a i j).length = a.length := by
  rw [step, setAt, setAt, List.length_set, List.length_set]

theorem run_append (js : List Nat) (j i : Nat) (a : List Nat) :
    run (js ++ [j]) i a = step (run js i a) (i + js.length) j := by
  induction js generalizing i a with
  | nil => rfl
  | cons x xs ih => rw [List.cons_append, run, ih, List.length_cons, Nat.add_right_comm, Nat.add_assoc]; rfl

def Valid : List Nat → Nat → Prop
  | [], _ => True
  | j :: js, i => j ≤ i ∧ Valid js (i + 1)

theorem valid_append (js : List Nat) (j i : Nat) : Valid (js ++ [j]) i ↔ Valid js i ∧ j ≤ i + js.length := by
  induction js generalizing i with
  | nil => simp [Valid]
  | cons x xs ih =>
    rw [List.cons_append, Valid, Valid, ih, List.length_cons, Nat.add_right_comm, Nat.add_assoc, and_assoc]

/-! ### `Samples` / `Shuffle`: the arrangement produced by the swaps `(i, i + j_i)` determines the choices -/

/-- what the caller's `swap(i, j)` does to an array -/
def swap (l : List Nat) (i j : Nat) : List Nat := (l.set i (l.getD j 0)).set j (l.getD i 0)

def swaps : List Nat → Nat → List Nat → List Nat
  | [], _, l => l
  | j :: js, i, l => swaps js (i + 1) (swap l i (i + j))

def SValid (n : Nat) : List Nat → Nat → Prop
  | [], _ => True
  | j :: js, i => i + j < n ∧ SValid n js (i + 1)

theorem svalid_getD (n : Nat) (js : List Nat) (i d : Nat) (hv : SValid n js i) (hd : d < js.length) :
    i + d + js.getD d 0 < n := by
  induction js generalizing i d with
  | nil => cases hd
  | cons j js ih =>
    cases d with
    | zero => exact hv.1
    | succ d =>
      have := ih (i + 1) d hv.2 (Nat.lt_of_succ_lt_succ hd)
      rw [List.getD_cons_succ]
      omega

section swap
variable (l : List Nat) {i j k : Nat}

@[simp] theorem swap_length : (swap l i j).length = l.length := by simp [swap]

theorem swap_getElem?_ne (hi : k ≠ i) (hj : k ≠ j) : (swap l i j)[k]? = l[k]? := by
  rw [swap, List.getElem?_set_ne hj.symm, List.getElem?_set_ne hi.symm]

theorem swap_get_ne (hi : k ≠ i) (hj : k ≠ j) (hk : k < (swap l i j).length) :
    (swap l i j)[k] = l[k]'(swap_length l ▸ hk) :=
  Option.some.inj (by rw [← List.getElem?_eq_getElem, ← List.getElem?_eq_getElem, swap_getElem?_ne l hi hj])

theorem swap_eq (hi : i < l.length) (hj : j < l.length) : swap l i j = (l.set i l[j]).set j l[i] := by
  simp only [swap, List.getD_eq_getElem?_getD, List.getElem?_eq_getElem hi, List.getElem?_eq_getElem hj, Option.getD_some]

theorem swap_get_right (hi : i < l.length) (hj : j < l.length) :
    (swap l i j)[j]'(by rwa [swap_length]) = l[i] := by
  simp only [swap_eq l hi hj, List.getElem_set_self]

theorem swap_get_left (hi : i < l.length) (hj : j < l.length) :
    (swap l i j)[i]'(by rwa [swap_length]) = l[j] := by
  simp only [swap_eq l hi hj, List.getElem_set]
  split
  · next h => subst h; rfl
  · rfl

theorem swap_perm (hi : i < l.length) (hj : j < l.length) : (swap l i j).Perm l :=
  swap_eq l hi hj ▸ List.set_set_perm hi hj

theorem swap_take_perm {m : Nat} (hi : i < m) (hj : j < m) (hm : m ≤ l.length) :
    ((swap l i j).take m).Perm (l.take m) :=
  (swap_perm l (by omega) (by omega)).take_of_getElem? fun k hk => swap_getElem?_ne l (by omega) (by omega)

theorem swap_swap (hi : i < l.length) (hj : j < l.length) : swap (swap l i j) i j = l := by
  have hi' : i < (swap l i j).length := by rwa [swap_length]
  have hj' : j < (swap l i j).length := by rwa [swap_length]
  apply List.ext_getElem (by rw [swap_length, swap_length])
  intro k hk _
  by_cases hki : k = i
  · subst hki; rw [swap_get_left _ hi' hj', swap_get_right l hi hj]
  by_cases hkj : k = j
  · subst hkj; rw [swap_get_right _ hi' hj', swap_get_left l hi hj]
  rw [swap_get_ne _ hki hkj, swap_get_ne l hki hkj]

end swap

theorem swaps_length (js : List Nat) (i : Nat) (l : List Nat) : (swaps js i l).length = l.length := by
  induction js generalizing i l with
  | nil => rfl
  | cons j js ih => rw [swaps, ih, swap_length]

theorem swaps_get_lt (js : List Nat) (i : Nat) (l : List Nat) (k : Nat) (hk : k < i) (hkl : k < (swaps js i l).length) :
    (swaps js i l)[k] = l[k]'(swaps_length js i l ▸ hkl) := by
  induction js generalizing i l with
  | nil => rfl
  | cons j js ih =>
    simp only [swaps]
    rw [ih (i + 1) _ (by omega), swap_get_ne l (by omega) (by omega)]

/-- **the arrangement determines the choices**: applying two valid choice vectors of the same length to the same
    array of distinct elements gives arrays that agree on the sampled positions only if the choices are equal -/
theorem swaps_inj (n : Nat) : ∀ (js js' : List Nat) (i : Nat) (l : List Nat), js.length = js'.length →
    l.length = n → l.Nodup → SValid n js i → SValid n js' i →
    (∀ k (h1 : k < (swaps js i l).length) (h2 : k < (swaps js' i l).length), i ≤ k → k < i + js.length →
      (swaps js i l)[k] = (swaps js' i l)[k]) → js = js' := by
  intro js
  induction js with
  | nil =>
    intro js' i l hl _ _ _ _ _
    exact (List.length_eq_zero_iff.1 hl.symm).symm
  | cons j js ih =>
    intro js' i l hlen hl hn hv hv' he
    cases js' with
    | nil => cases hlen
    | cons j' js' =>
      have hi : i < l.length := by have := hv.1; omega
      have hj : i + j < l.length := hl ▸ hv.1
      have hj' : i + j' < l.length := hl ▸ hv'.1
      -- position `i` is final after the first swap, where it receives `l[i + j]`
      have e0 := he i (by rwa [swaps_length]) (by rwa [swaps_length]) (Nat.le_refl _) (by simp)
      simp only [swaps] at e0
      rw [swaps_get_lt js (i + 1) _ i (by omega), swaps_get_lt js' (i + 1) _ i (by omega),
        swap_get_left l hi hj, swap_get_left l hi hj'] at e0
      obtain rfl : j = j' := Nat.add_left_cancel ((hn.getElem_inj_iff).1 e0)
      congr 1
      apply ih js' (i + 1) (swap l i (i + j)) (Nat.succ.inj hlen) (by rw [swap_length, hl])
        ((swap_perm l hi hj).nodup_iff.2 hn) hv.2 hv'.2
      intro k h1 h2 hk1 hk2
      exact he k h1 h2 (by omega) (by rw [List.length_cons]; omega)

end Proofs.FisherYates
