import Mathlib.Algebra.QuadraticAlgebra.Basic
import Proofs.CurveGroup

/-! The curve arithmetic of the executable model over `F_p² = F_p[u]/(u² + 1)` (`Model.Curve` over `Fp2.ops p`, the
arithmetic of `E2`) is the group law of the curve over Mathlib's `QuadraticAlgebra (ZMod p) (-1) 0`, a field when `-1`
is not a square in `ZMod p`: `Fp2.ops p` represents it by pairs of naturals (`fp2Model`), and the statements are those
of `Proofs/CurveModel.lean` for it. -/

namespace Proofs.CurveGroup2
open Model Model.Curve WeierstrassCurve.Affine

-- `-1` is not a square, in the shape (`r ^ 2 ≠ a + b * r`) in which `QuadraticAlgebra`'s field instance asks for it
variable (p : ℕ) [hp : Fact p.Prime] [h34 : Fact (∀ r : ZMod p, r ^ 2 ≠ (-1 : ZMod p) + 0 * r)]

abbrev K := QuadraticAlgebra (ZMod p) (-1) 0

def φ (x : ℕ × ℕ) : K p := ⟨(x.1 : ZMod p), (x.2 : ZMod p)⟩

instance : Coe (ℕ × ℕ) (K p) := ⟨φ p⟩

def canon (x : ℕ × ℕ) : Prop := x.1 < p ∧ x.2 < p

def C (a b : ℕ × ℕ) : Params (ℕ × ℕ) := { f := Fp2.ops p, a := a, b := b }

def W (a b : ℕ × ℕ) : WeierstrassCurve.Affine (K p) := ⟨0, 0, 0, (a : K p), (b : K p)⟩

section field

theorem c_add (x y : ℕ × ℕ) : ((Fp2.add p x y : ℕ × ℕ) : K p) = (x : K p) + y := by
  show φ p _ = φ p x + φ p y
  unfold φ Fp2.add
  ext
  · simp [Fp.c_add]
  · simp [Fp.c_add]

theorem c_sub (x y : ℕ × ℕ) : ((Fp2.sub p x y : ℕ × ℕ) : K p) = (x : K p) - y := by
  show φ p _ = φ p x - φ p y
  unfold φ Fp2.sub
  ext
  · simp [Fp.c_sub]
  · simp [Fp.c_sub]

theorem c_mul (x y : ℕ × ℕ) : ((Fp2.mul p x y : ℕ × ℕ) : K p) = (x : K p) * y := by
  show φ p _ = φ p x * φ p y
  unfold φ Fp2.mul
  ext
  · simp [Fp.c_sub, Fp.c_mul]; ring
  · simp [Fp.c_add, Fp.c_mul]

theorem c_zero : (((0, 0) : ℕ × ℕ) : K p) = 0 := by
  show φ p _ = 0
  unfold φ; ext <;> simp

theorem c_one : (((1 % p, 0) : ℕ × ℕ) : K p) = 1 := by
  show φ p _ = 1
  unfold φ; ext <;> simp [QuadraticAlgebra.re_one, QuadraticAlgebra.im_one]

theorem c_inv (h2 : 2 < p) (hb : p < 2 ^ 800) (x : ℕ × ℕ) : ((Fp2.inv p x : ℕ × ℕ) : K p) = (x : K p)⁻¹ := by
  show φ p _ = (φ p x)⁻¹
  unfold φ Fp2.inv
  ext
  · simp [QuadraticAlgebra.inv_def, QuadraticAlgebra.norm_def, Fp.c_mul, Fp.c_add,
      Fp.c_inv p h2 hb]
    ring
  · simp [QuadraticAlgebra.inv_def, QuadraticAlgebra.norm_def, Fp.c_mul, Fp.c_add,
      Fp.c_neg, Fp.c_inv p h2 hb]
    ring

theorem lt_add (x y : ℕ × ℕ) : canon p (Fp2.add p x y) :=
  ⟨Fp.lt_add p _ _, Fp.lt_add p _ _⟩
theorem lt_sub (x y : ℕ × ℕ) : canon p (Fp2.sub p x y) :=
  ⟨Fp.lt_sub p _ _, Fp.lt_sub p _ _⟩
theorem lt_mul (x y : ℕ × ℕ) : canon p (Fp2.mul p x y) :=
  ⟨Fp.lt_sub p _ _, Fp.lt_add p _ _⟩
theorem lt_zero : canon p (0, 0) := ⟨hp.out.pos, hp.out.pos⟩
theorem lt_one : canon p (1 % p, 0) := ⟨Nat.mod_lt _ hp.out.pos, hp.out.pos⟩

theorem cast_inj {x y : ℕ × ℕ} (hx : canon p x) (hy : canon p y) : (x : K p) = y ↔ x = y := by
  constructor
  · intro h
    have h' : φ p x = φ p y := h
    unfold φ at h'
    have h1 := congrArg QuadraticAlgebra.re h'
    have h2 := congrArg QuadraticAlgebra.im h'
    simp only at h1 h2
    exact Prod.ext ((Fp.cast_inj p hx.1 hy.1).1 h1) ((Fp.cast_inj p hx.2 hy.2).1 h2)
  · intro h; rw [h]

theorem two_ne_zero_of_lt (h2 : 2 < p) : (2 : K p) ≠ 0 := by
  intro h
  have := congrArg QuadraticAlgebra.re h
  rw [QuadraticAlgebra.re_ofNat, QuadraticAlgebra.re_zero] at this
  exact Fp.two_ne_zero_of_lt p h2 this

def fp2Model : CurveField.FieldModel (ℕ × ℕ) (K p) where
  f := Fp2.ops p
  canon := canon p
  φ := φ p
  φ_zero := c_zero p
  φ_one := c_one p
  φ_add := c_add p
  φ_sub := c_sub p
  φ_mul := c_mul p
  canon_zero := lt_zero p
  canon_one := lt_one p
  canon_add := lt_add p
  canon_sub := lt_sub p
  canon_mul := lt_mul p
  φ_inj := fun hx hy h => (cast_inj p hx hy).1 h
  beq_iff := fun _ _ => beq_iff_eq

end field

section curve

variable (a b : ℕ × ℕ)

/- `Valid`, `toPoint` and `JValid` are written out here for the reason given in `Proofs/CurveGroup.lean`. -/

def Valid : Aff (ℕ × ℕ) → Prop
  | none => True
  | some (x, y) => canon p x ∧ canon p y ∧ onCurve (C p a b) (some (x, y)) = true

theorem onCurve_iff {x y : ℕ × ℕ} (hx : canon p x) (hy : canon p y) :
    onCurve (C p a b) (some (x, y)) = true ↔ (W p a b).Equation (x : K p) (y : K p) :=
  (fp2Model p).onCurve_iff a b x y

open Classical in
/-- infinity for anything that is not a nonsingular point -/
noncomputable def toPoint : Aff (ℕ × ℕ) → (W p a b).Point
  | none => 0
  | some (x, y) => if h : (W p a b).Nonsingular (x : K p) (y : K p) then .some _ _ h else 0

theorem toPoint_some {x y : ℕ × ℕ} (h : (W p a b).Nonsingular (x : K p) (y : K p)) :
    toPoint p a b (some (x, y)) = .some _ _ h := by
  unfold toPoint; exact dif_pos h

theorem some_congr {x y x' y' : K p} (h : (W p a b).Nonsingular x y) (hx : x = x') (hy : y = y')
    (h' : (W p a b).Nonsingular x' y') : (Point.some x y h : (W p a b).Point) = Point.some x' y' h' :=
  CurveField.some_congr h hx hy h'

theorem valid_eq : Valid p a b = (fp2Model p).Valid a b := by
  funext P
  rcases P with _ | ⟨x, y⟩ <;> rfl

theorem toPoint_eq : toPoint p a b = (fp2Model p).toPoint a b := by
  funext P
  rcases P with _ | ⟨x, y⟩ <;> rfl

variable (hΔ : (W p a b).Δ ≠ 0) (h2 : 2 < p) (hb : p < 2 ^ 800)
include hΔ h2 hb

theorem addAff_eq (P Q : Aff (ℕ × ℕ)) (hP : Valid p a b P) (hQ : Valid p a b Q) :
    Valid p a b (addAff (C p a b) P Q) ∧
      toPoint p a b (addAff (C p a b) P Q) = toPoint p a b P + toPoint p a b Q := by
  rw [valid_eq] at hP hQ ⊢
  rw [toPoint_eq]
  exact (fp2Model p).addAff_eq a b (c_inv p h2 hb) hΔ P Q hP hQ

end curve

section jacobian

variable (a b : ℕ × ℕ)

def JValid (J : Jac (ℕ × ℕ)) : Prop := canon p J.x ∧ canon p J.y ∧ canon p J.z ∧ Valid p a b (fromJac (C p a b) J)

theorem jvalid_eq : JValid p a b = (fp2Model p).JValid a b := by
  funext J
  unfold JValid
  rw [valid_eq]
  rfl

variable (h2 : 2 < p) (hb : p < 2 ^ 800)
include h2 hb

theorem dblJac_eq (J : Jac (ℕ × ℕ)) (hJ : JValid p a b J) :
    canon p (dblJac (C p a b) J).x ∧ canon p (dblJac (C p a b) J).y ∧ canon p (dblJac (C p a b) J).z ∧
    fromJac (C p a b) (dblJac (C p a b) J) = addAff (C p a b) (fromJac (C p a b) J) (fromJac (C p a b) J) :=
  have c := (fp2Model p).canon_dblJac a b J
  ⟨c.1, c.2.1, c.2.2,
    (fp2Model p).fromJac_dblJac a b (c_inv p h2 hb) (two_ne_zero_of_lt p h2) ⟨hJ.1, hJ.2.1, hJ.2.2.1⟩⟩

theorem addJac_eq (P Q : Jac (ℕ × ℕ)) (hP : JValid p a b P) (hQ : JValid p a b Q) :
    canon p (addJac (C p a b) P Q).x ∧ canon p (addJac (C p a b) P Q).y ∧ canon p (addJac (C p a b) P Q).z ∧
    fromJac (C p a b) (addJac (C p a b) P Q) = addAff (C p a b) (fromJac (C p a b) P) (fromJac (C p a b) Q) := by
  rw [jvalid_eq] at hP hQ
  have c := (fp2Model p).canon_addJac a b hP.canonJac hQ.canonJac
  exact ⟨c.1, c.2.1, c.2.2, (fp2Model p).fromJac_addJac a b (c_inv p h2 hb) (two_ne_zero_of_lt p h2) hP hQ⟩

end jacobian

section group

variable (a b : ℕ × ℕ) (hΔ : (W p a b).Δ ≠ 0) (h2 : 2 < p) (hb : p < 2 ^ 800)
include hΔ h2 hb

theorem mulJacAux_eq : ∀ (fuel k : ℕ) (base acc : Jac (ℕ × ℕ)), k < 2 ^ fuel → JValid p a b base → JValid p a b acc →
    JValid p a b (mulJacAux (C p a b) fuel k base acc) ∧
      toPoint p a b (fromJac (C p a b) (mulJacAux (C p a b) fuel k base acc)) =
        toPoint p a b (fromJac (C p a b) acc) + k • toPoint p a b (fromJac (C p a b) base) := by
  rw [jvalid_eq, toPoint_eq]
  exact (fp2Model p).mulJacAux_eq a b (c_inv p h2 hb) hΔ (two_ne_zero_of_lt p h2)

theorem mul_eq (k : ℕ) (hk : k < 2 ^ 800) (P : Aff (ℕ × ℕ)) (hP : Valid p a b P) :
    Valid p a b (mul (C p a b) k P) ∧ toPoint p a b (mul (C p a b) k P) = k • toPoint p a b P := by
  rw [valid_eq] at hP ⊢
  rw [toPoint_eq]
  exact (fp2Model p).mul_eq a b (c_inv p h2 hb) hΔ (two_ne_zero_of_lt p h2) k hk P hP

theorem sum_eq (ps : List (Aff (ℕ × ℕ))) (hps : ∀ P ∈ ps, Valid p a b P) :
    Valid p a b (sum (C p a b) ps) ∧ toPoint p a b (sum (C p a b) ps) = (ps.map (toPoint p a b)).sum := by
  rw [valid_eq] at hps ⊢
  rw [toPoint_eq]
  exact (fp2Model p).sum_eq a b (c_inv p h2 hb) hΔ (two_ne_zero_of_lt p h2) ps hps

omit h2 hb in
theorem toPoint_inj (P Q : Aff (ℕ × ℕ)) (hP : Valid p a b P) (hQ : Valid p a b Q)
    (h : toPoint p a b P = toPoint p a b Q) : P = Q := by
  rw [valid_eq] at hP hQ
  rw [toPoint_eq] at h
  exact (fp2Model p).toPoint_inj a b hΔ P Q hP hQ h

theorem sum_perm (ps qs : List (Aff (ℕ × ℕ))) (hps : ∀ P ∈ ps, Valid p a b P) (h : ps.Perm qs) :
    sum (C p a b) ps = sum (C p a b) qs := by
  rw [valid_eq] at hps
  exact (fp2Model p).sum_perm a b (c_inv p h2 hb) hΔ (two_ne_zero_of_lt p h2) ps qs hps h

end group

end Proofs.CurveGroup2
