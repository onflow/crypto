import Proofs.BlsPoints2
import Driver.Dkg
import Proofs.Generators

/-! The Feldman identity in the executable model of the BLS crypto record: Horner evaluation "in the exponent" of the
commitments `a_k • g2` (the model of `E2_polynomial_image`) is `f(x) • g2` for the scalar evaluation `f(x)` the
dealer computes (the model of `Fr_polynomial_image`), by the group law of `E2`. -/

namespace Proofs.BlsFeldman
open Model Model.Curve Proofs.CurveGroup2 Proofs.CurveInst2

def hornerInt (a : List ℕ) (x : ℕ) : ℕ := a.foldr (fun c acc => acc * x + c) 0

theorem polyEval_mod (a : List ℕ) (x : ℕ) : Driver.Dkg.polyEval a x = hornerInt a x % Bls.r := by
  induction a with
  | nil => rfl
  | cons c t ih =>
    show (Driver.Dkg.polyEval t x * x + c) % Bls.r = (hornerInt t x * x + c) % Bls.r
    rw [ih, Nat.add_mod, Nat.mul_mod, Nat.mod_mod, ← Nat.mul_mod, ← Nat.add_mod]

theorem polyEval_lt (a : List ℕ) (x : ℕ) : Driver.Dkg.polyEval a x < Bls.r := by
  rw [polyEval_mod]; exact Nat.mod_lt _ Bls.r_pos

theorem rG : Bls.r • toPoint Bls.p (0, 0) (4, 4) Bls.g2 = 0 :=
  (Proofs.BlsConcrete.inG2_iff_torsion Bls.g2 bls_g2_valid).1 (congrArg Option.isNone Proofs.Generators.mul_r_g2)

theorem pimg (a : List ℕ) (ha : ∀ c ∈ a, c < 2 ^ 800) (x : ℕ) (hx : x < 2 ^ 800) :
    Driver.Dkg.polyImageE2 (a.map fun c => Curve.mul Bls.E2 c Bls.g2) x =
      Proofs.BlsConcrete.ofPoint2 Bls.p (0, 0) (4, 4) (hornerInt a x • toPoint Bls.p (0, 0) (4, 4) Bls.g2) := by
  induction a with
  | nil => rw [show hornerInt [] x = 0 from rfl, zero_nsmul]; rfl
  | cons c t ih =>
    show Curve.addAff Bls.E2 (Curve.mul Bls.E2 x (Driver.Dkg.polyImageE2 (t.map fun c => Curve.mul Bls.E2 c Bls.g2) x))
      (Curve.mul Bls.E2 c Bls.g2) = _
    rw [ih (fun c' hc' => ha c' (List.mem_cons_of_mem _ hc')), mul_E2 x hx _ (valid_ofPoint ..),
      mul_g2 c (ha c List.mem_cons_self), addAff_E2 _ _ (valid_ofPoint ..) (valid_ofPoint ..), toPoint_ofPoint,
      toPoint_ofPoint, toPoint_ofPoint, smul_smul, ← add_smul, mul_comm]
    rfl

/-- **the Feldman identity in the executable model**: for coefficients `a_k` and an abscissa `x` (below `2^800`),
    the image of the commitment vector `(a_k • g2)_k` at `x` computed "in the exponent" equals
    `polyEval a x • g2` -/
theorem feldman (a : List ℕ) (ha : ∀ c ∈ a, c < 2 ^ 800) (x : ℕ) (hx : x < 2 ^ 800) :
    Driver.Dkg.polyImageE2 (a.map fun c => Curve.mul Bls.E2 c Bls.g2) x =
      Curve.mul Bls.E2 (Driver.Dkg.polyEval a x) Bls.g2 := by
  rw [pimg a ha x hx, mul_g2 _ ((polyEval_lt a x).trans Bls.r_bits), polyEval_mod]
  exact congrArg _ (nsmul_congr_mod rG (Nat.mod_mod _ _).symm)

end Proofs.BlsFeldman
