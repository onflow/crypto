import Mathlib.Data.ZMod.Basic
import Mathlib.Algebra.Field.ZMod
import Mathlib.Algebra.Module.Basic
import Mathlib.Tactic.FieldSimp
import Mathlib.Tactic.Ring

/-! ECDSA over an abstract group of prime order `n`: the verification equation, the `(r, n-s)` twin and
sign ⇒ verify. `xc` is the map "x-coordinate reduced modulo n"; the only thing used about it is
`xc (-P) = xc P`. -/

variable {n : ℕ} [Fact n.Prime]

structure EcGroup (n : ℕ) [Fact n.Prime] where
  G : Type
  [inst : AddCommGroup G]
  [mod : Module (ZMod n) G]
  g : G
  g_order : ∀ a : ZMod n, a • g = 0 → a = 0
  xc : G → ZMod n
  xc_neg : ∀ P, xc (-P) = xc P

attribute [instance] EcGroup.inst EcGroup.mod

variable (E : EcGroup n)

/-- the verification equation on scalars `e` (hash), `r`, `s` and the public key `Q` -/
def ecVerify (Q : E.G) (e r s : ZMod n) : Prop :=
  r ≠ 0 ∧ s ≠ 0 ∧ (e * s⁻¹) • E.g + (r * s⁻¹) • Q ≠ 0 ∧ E.xc ((e * s⁻¹) • E.g + (r * s⁻¹) • Q) = r

/-- **the twin**: `(r, s)` is valid exactly when `(r, -s)` (i.e. `(r, n - s)`) is -/
theorem ecVerify_twin (Q : E.G) (e r s : ZMod n) : ecVerify E Q e r s ↔ ecVerify E Q e r (-s) := by
  unfold ecVerify
  have hX : (e * (-s)⁻¹) • E.g + (r * (-s)⁻¹) • Q = -((e * s⁻¹) • E.g + (r * s⁻¹) • Q) := by
    rw [inv_neg, mul_neg, mul_neg, neg_smul, neg_smul, neg_add]
  rw [hX, E.xc_neg, neg_ne_zero, neg_ne_zero]

/-- **every signature produced with a non-zero nonce verifies** under the signer's public key -/
theorem ec_sign_verify (d k e : ZMod n) (hk : k ≠ 0)
    (hr : E.xc (k • E.g) ≠ 0) (hs : k⁻¹ * (e + E.xc (k • E.g) * d) ≠ 0) :
    ecVerify E (d • E.g) e (E.xc (k • E.g)) (k⁻¹ * (e + E.xc (k • E.g) * d)) := by
  set r := E.xc (k • E.g) with hrdef
  have hsum : e + r * d ≠ 0 := by
    intro h0; apply hs; rw [h0, mul_zero]
  have hX : (e * (k⁻¹ * (e + r * d))⁻¹) • E.g + (r * (k⁻¹ * (e + r * d))⁻¹) • (d • E.g) = k • E.g := by
    rw [smul_smul, ← add_smul]
    congr 1
    rw [mul_inv, inv_inv]
    have : e * (k * (e + r * d)⁻¹) + r * (k * (e + r * d)⁻¹) * d = k * ((e + r * d) * (e + r * d)⁻¹) := by ring
    rw [this, mul_inv_cancel₀ hsum, mul_one]
  refine ⟨hr, hs, ?_, ?_⟩
  · rw [hX]
    intro h0
    exact hk (E.g_order k h0)
  · rw [hX]

theorem ecVerify_point (Q : E.G) (e r s : ZMod n) (h : ecVerify E Q e r s) :
    ∃ X : E.G, X = (e * s⁻¹) • E.g + (r * s⁻¹) • Q ∧ X ≠ 0 ∧ E.xc X = r :=
  ⟨_, rfl, h.2.2.1, h.2.2.2⟩
