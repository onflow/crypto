import Proofs.DkgOnce

/-! On success the private share matches the public share: whatever the dealer and the other participants do, if
`End` returns keys at a participant other than the dealer then its private share passes the check against the
verification vector whose keys are returned. The file starts with what every later file needs about an instance,
dealer or not: the fields no delivery changes (with `tstep_frame` for the timeouts: `final_cfg`), and what `End` reads of the state. -/

namespace Proofs.DkgAgree
open Model Model.Dkg Proofs.DkgCommute
variable {O : Ops}

theorem runList_nil (z : St O) : runList z [] = z := rfl
theorem runList_single (z : St O) (x : Dl) : runList z [x] = step z x := rfl

theorem runList_append (s : St O) (l1 l2 : List Dl) : runList s (l1 ++ l2) = runList (runList s l1) l2 := by
  unfold runList; rw [List.foldl_append]

theorem step_cfg_any (s : St O) (e : Dl) : SameCfg s (step s e) := by
  have f : sameFlags s (step s e) := by
    cases e with
    | bcast o m => exact bcastBody_flags s o m
    | priv o m => exact privBody_flags s o m
  exact ⟨f.me, f.dealer, f.size, f.threshold, f.sharesTimeout, f.complaintsTimeout, f.running⟩

theorem runList_cfg_any (s : St O) (l : List Dl) : SameCfg s (runList s l) := by
  induction l generalizing s with
  | nil => exact SameCfg.rfl' s
  | cons e t ih => exact SameCfg.trans (step_cfg_any s e) (ih (step s e))

/-- some registered complaint was never answered -/
def unanswered (s : St O) : Bool := s.complaints.any (fun kc => kc.2.received && !kc.2.answerReceived)

theorem unanswered_eq_false_iff (s : St O) :
    unanswered s = false ↔ ∀ kc ∈ s.complaints, kc.2.received = true → kc.2.answerReceived = true := by
  unfold unanswered
  rw [List.any_eq_false]
  refine forall_congr' fun kc => forall_congr' fun _ => ?_
  cases kc.2.received <;> cases kc.2.answerReceived <;> decide

theorem unanswered_perm {s t : St O} (h : s.complaints.Perm t.complaints) : unanswered s = unanswered t :=
  List.Perm.any_eq h

theorem St.mem_of_find {s : St O} {k : Nat} {c : Complaint} (h : s.find k = some c) : (k, c) ∈ s.complaints := by
  unfold St.find at h
  cases hf : s.complaints.find? (·.1 == k) with
  | none => rw [hf] at h; cases h
  | some kc =>
    rw [hf] at h
    have hk : kc.1 = k := find_some_key _ _ _ hf
    have hc : kc.2 = c := Option.some.inj h
    rw [← hk, ← hc]
    exact List.mem_of_find?_eq_some hf

theorem settle_eq (s : St O) : (FvssQ.settle s).1 = if !s.disqualified ∧ unanswered s then setDisq s true else s := by
  unfold FvssQ.settle unanswered
  split <;> rfl

/-- what `End` needs from an instance: the verdict and, if qualified, the share and the vector -/
def view (s : St O) : Bool × Nat × Option O.Vec :=
  let t := (FvssQ.settle s).1
  (t.disqualified, if t.disqualified then 0 else t.x, if t.disqualified then none else t.vA)

theorem view_eq (s : St O) : view s =
    if s.disqualified = true ∨ unanswered s = true then (true, 0, none) else (false, s.x, s.vA) := by
  have e : view s = ((FvssQ.settle s).1.disqualified, if (FvssQ.settle s).1.disqualified then 0 else (FvssQ.settle s).1.x,
      if (FvssQ.settle s).1.disqualified then none else (FvssQ.settle s).1.vA) := rfl
  rw [e, settle_eq]
  cases hd : s.disqualified
  · cases hu : unanswered s
    · rw [if_neg (fun h => Bool.false_ne_true h.2), hd,
        if_neg (fun h : false = true ∨ false = true => h.elim Bool.false_ne_true Bool.false_ne_true)]
      rfl
    · rw [if_pos (⟨rfl, rfl⟩ : (!false) = true ∧ true = true), if_pos (Or.inr rfl : false = true ∨ true = true)]; rfl
  · rw [if_neg (fun h => Bool.false_ne_true h.1), hd, if_pos (Or.inl rfl : true = true ∨ unanswered s = true)]; rfl

theorem view_relP {a b : St O} (h : RelP a b) : view a = view b := by
  rw [view_eq, view_eq]
  rcases h with h | h
  · rw [if_pos (Or.inl h.1), if_pos (Or.inl h.2)]
  · rw [h.disqualified, h.x, h.vA, unanswered_perm h.perm]

/-- what Joint `End` uses of an instance, publicly: the settled verdict and, if the dealer is qualified, its vector -/
def pview (s : St O) : Bool × Option O.Vec :=
  let t := (FvssQ.settle s).1
  (t.disqualified, if t.disqualified then none else t.vA)

theorem pview_view (s : St O) : pview s = ((view s).1, (view s).2.2) := rfl

theorem pview_eq (s : St O) : pview s =
    if s.disqualified = true ∨ unanswered s = true then (true, none) else (false, s.vA) := by
  rw [pview_view, view_eq]
  split <;> rfl

theorem pview_relP {s t : St O} (h : RelP s t) : pview s = pview t := by
  rw [pview_view, pview_view, view_relP h]

/-- the public part of what `End` returns: `none` = failure, otherwise the group key and the public key shares -/
def pubRes (s : St O) : Option (Bytes × List Bytes) :=
  if s.disqualified = true ∨ unanswered s = true then none
  else match s.vA with
    | none => none
    | some v => if O.groupKeyIsIdentity v then none else some (O.groupKey v, O.pubShares v)

/-- the keys of a qualified dealer's vector, unless the group key is the identity -/
def keysOf (p : Bool × Option O.Vec) : Option (Bytes × List Bytes) :=
  match p with
  | (false, some v) => if O.groupKeyIsIdentity v then none else some (O.groupKey v, O.pubShares v)
  | _ => none

theorem pubRes_pview (s : St O) : pubRes s = keysOf (pview s) := by
  rw [pview_eq]
  unfold pubRes
  split
  · rfl
  · cases s.vA <;> rfl

theorem endRes_pubRes (s : St O) : endRes s =
    match pubRes s with
    | none => .failure
    | some Yys => if s.x = 0 then .failure else .keys s.x Yys.1 Yys.2 := by
  rw [endRes_eq]
  unfold pubRes unanswered
  split
  · rfl
  · cases s.vA with
    | none => rfl
    | some v =>
      dsimp only
      cases O.groupKeyIsIdentity v
      · rfl
      · split <;> rfl

theorem pubRes_some {s : St O} {Yys : Bytes × List Bytes} (h : pubRes s = some Yys) :
    s.disqualified = false ∧ unanswered s = false ∧
    ∃ v, s.vA = some v ∧ O.groupKeyIsIdentity v = false ∧ Yys = (O.groupKey v, O.pubShares v) := by
  unfold pubRes at h
  cases hd : s.disqualified
  · cases hu : unanswered s
    · rw [if_neg (by rw [hd, hu]; exact fun h => h.elim Bool.false_ne_true Bool.false_ne_true)] at h
      cases hv : s.vA with
      | none => rw [hv] at h; cases h
      | some v =>
        rw [hv] at h
        dsimp only at h
        cases hi : O.groupKeyIsIdentity v
        · rw [hi] at h; exact ⟨rfl, rfl, v, rfl, hi, (Option.some.inj h).symm⟩
        · rw [hi] at h; cases h
    · rw [if_pos (Or.inr hu)] at h; cases h
  · rw [if_pos (Or.inl hd)] at h; cases h

theorem endRes_keys {s : St O} {x : Nat} {Y : Bytes} {ys : List Bytes} (h : endRes s = .keys x Y ys) :
    x = s.x ∧ x ≠ 0 ∧ pubRes s = some (Y, ys) := by
  rw [endRes_pubRes] at h
  cases hp : pubRes s with
  | none => rw [hp] at h; cases h
  | some Yys =>
    rw [hp] at h
    dsimp only at h
    by_cases h0 : s.x = 0
    · rw [if_pos h0] at h; cases h
    · rw [if_neg h0] at h; cases h; exact ⟨rfl, h0, rfl⟩

end Proofs.DkgAgree

namespace Proofs.DkgCommute
open Model Model.Dkg Proofs.DkgAgree
variable {O : Ops}

/-- the node's own table entry is a complaint that was answered -/
def ownAnswered (s : St O) (c : Complaint) : Prop :=
  s.find s.me = some c ∧ c.received = true ∧ c.answerReceived = true

/-- the node has not complained -/
def notComplained (s : St O) : Prop := ∀ c, s.find s.me = some c → c.received = false

/-- share consistency: as long as the dealer is not disqualified, the stored share is the adopted answer when the
    node's complaint was answered, and it passes the check against the stored vector whenever that is decidable -/
structure SC (s : St O) : Prop where
  inv : Inv s
  adopt : s.disqualified = false → ∀ c, ownAnswered s c → s.x = c.answer
  valid : s.disqualified = false → s.vAReceived = true → ∀ v, s.vA = some v → ∀ c, ownAnswered s c →
    O.checkLog v s.me c.answer = true
  share : s.disqualified = false → s.vAReceived = true → ∀ v, s.vA = some v → notComplained s → s.xReceived = true →
    O.checkLog v s.me s.x = true
  late : s.disqualified = false → s.sharesTimeout = true →
    s.vAReceived = true ∧ (s.xReceived = true ∨ ∃ c, s.find s.me = some c ∧ c.received = true)

/-- the node has complained: share consistency speaks of the answer only, once there is one -/
theorem sc_complained (t : St O) (invt : Inv t) (c' : Complaint) (hf : t.find t.me = some c') (hr : c'.received = true)
    (hans : t.disqualified = false → c'.answerReceived = true → t.x = c'.answer ∧
      (t.vAReceived = true → ∀ v, t.vA = some v → O.checkLog v t.me c'.answer = true))
    (hlate : t.sharesTimeout = true → t.vAReceived = true) : SC t := by
  have own : ∀ c, ownAnswered t c → c' = c := fun c hc => Option.some.inj (hf.symm.trans hc.1)
  refine ⟨invt, ?_, ?_, ?_, ?_⟩
  · intro hd c hc; cases own c hc; exact (hans hd hc.2.2).1
  · intro hd hv v hv' c hc; cases own c hc; exact (hans hd hc.2.2).2 hv v hv'
  · intro _ _ _ _ hnc _
    have := hnc c' hf; rw [this] at hr; cases hr
  · intro _ hst; exact ⟨hlate hst, Or.inr ⟨c', hf, hr⟩⟩

theorem sc_bc (t : St O) (hinv : Inv (FvssQ.buildComplaint t).1) (hvok : VecOK t) (hdq : t.disqualified = false)
    (hold : ∀ c, ownAnswered t c → t.x = c.answer ∧
      (t.vAReceived = true → ∀ v, t.vA = some v → O.checkLog v t.me c.answer = true))
    (hlate : t.sharesTimeout = true → t.vAReceived = true) : SC (FvssQ.buildComplaint t).1 := by
  have hme : (FvssQ.buildComplaint t).1.me = t.me := (bc_cfg t).me
  have hk := bc_keeps t
  obtain ⟨c1, hc1, hr1⟩ := bc_find_received t
  refine sc_complained _ hinv c1 (by rw [hme]; exact hc1) hr1 ?_
    (fun hst => by rw [hk.2.1]; exact hlate (by rw [← (bc_cfg t).sharesTimeout]; exact hst))
  rw [hme, hk.1, hk.2.1]
  revert c1
  -- by the outcome of the call: the entry it leaves, if answered, holds the adopted share, checked where possible
  refine buildComplaint_cases (P := fun r => ∀ c1, r.1.find t.me = some c1 → c1.received = true →
    r.1.disqualified = false → c1.answerReceived = true → r.1.x = c1.answer ∧
    (t.vAReceived = true → ∀ v, t.vA = some v → O.checkLog v t.me c1.answer = true)) t ?_ ?_ ?_ ?_ ?_ ?_
  · intro _ c1 h1 _ _ ha
    cases (find_setC_same t t.me fresh).symm.trans h1; cases ha
  · exact fun c hf _ c1 h1 hr _ ha => hold c1 ⟨h1, hr, ha⟩
  · exact fun _ _ _ _ _ _ _ _ hd => nomatch hd
  · intro c0 _ _ _ _ _ hc c1 h1 _ _ _
    cases (find_setC_same t t.me (recv c0)).symm.trans h1
    refine ⟨rfl, fun _ v hvA => ?_⟩
    unfold St.checkComplaint at hc; rw [hvA] at hc
    simpa using hc
  · intro c0 _ _ _ hv c1 h1 _ _ _
    cases (find_setC_same t t.me (recv c0)).symm.trans h1
    exact ⟨rfl, fun hvr _ _ => absurd ⟨hvr, hvok hvr hdq⟩ hv⟩
  · intro c0 _ _ ha c1 h1 _ _ ha1
    cases (find_setC_same t t.me (recv c0)).symm.trans h1
    rw [show (recv c0).answerReceived = c0.answerReceived from rfl, ha] at ha1; cases ha1

theorem sc_disq (t : St O) (inv : Inv t) (hd : t.disqualified = true) : SC t := by
  refine ⟨inv, ?_, ?_, ?_, ?_⟩ <;> (intro h; rw [hd] at h; cases h)

theorem sc_transfer (s t : St O) (h : SC s) (invt : Inv t) (hme : t.me = s.me)
    (hown : t.find s.me = s.find s.me) (hx : t.x = s.x) (hxr : t.xReceived = s.xReceived)
    (hvA : t.vA = s.vA) (hvr : t.vAReceived = s.vAReceived) (hst : t.sharesTimeout = s.sharesTimeout)
    (hd : s.disqualified = false) : SC t := by
  have own : ∀ c, ownAnswered t c → ownAnswered s c := by
    intro c hc; unfold ownAnswered at *; rw [hme, hown] at hc; exact hc
  refine ⟨invt, ?_, ?_, ?_, ?_⟩
  · intro _ c hc; rw [hx]; exact h.adopt hd c (own c hc)
  · intro _ hv v hv' c hc; rw [hme]
    exact h.valid hd (by rw [← hvr]; exact hv) v (by rw [← hvA]; exact hv') c (own c hc)
  · intro _ hv v hv' hnc hxr'; rw [hme, hx]
    exact h.share hd (by rw [← hvr]; exact hv) v (by rw [← hvA]; exact hv')
      (by intro c hc; exact hnc c (by rw [hme, hown]; exact hc)) (by rw [← hxr]; exact hxr')
  · intro _ hst'
    obtain ⟨a, b⟩ := h.late hd (by rw [← hst]; exact hst')
    refine ⟨by rw [hvr]; exact a, ?_⟩
    rcases b with b | ⟨c, hc, hr⟩
    · left; rw [hxr]; exact b
    · right; exact ⟨c, by rw [hme, hown]; exact hc, hr⟩

theorem sc_applyUpd_other (s : St O) (h : SC s) (hdq : s.disqualified = false) (k : Nat) (hk : k ≠ s.me) (u : Upd)
    (hx : u.x = none) (invt : Inv (applyUpd s k u)) : SC (applyUpd s k u) := by
  refine sc_transfer s _ h invt (applyUpd_me s k u) (applyUpd_find_stable s s.me k u (Or.inl fun e => hk e.symm)) ?_
    (applyUpd_xReceived s k u) (applyUpd_vA s k u) (applyUpd_vAReceived s k u) (applyUpd_sharesTimeout s k u) hdq
  rw [applyUpd_x, hx]

theorem sc_cmpl (s : St O) (h : SC s) (hdq : s.disqualified = false) (k : Nat) (hk : k ≠ s.me) : SC (rcOk s k) := by
  have invt := inv_rcOk s h.inv hdq k hk
  rw [rcOk_F] at invt ⊢
  exact sc_applyUpd_other s h hdq k hk _ (rcU_x _ _ _) invt

theorem sc_ans_other (s : St O) (h : SC s) (hdq : s.disqualified = false) (j : Nat) (sc : Option Nat) (hj : j ≠ s.me) :
    SC (raOk s j sc) := by
  have invt := inv_raOk s h.inv hdq j sc
  rw [raOk_F] at invt ⊢
  exact sc_applyUpd_other s h hdq j hj _ (ansF_x j sc s hj) invt

theorem sc_ans_me (s : St O) (h : SC s) (hdq : s.disqualified = false) (sc : Option Nat) : SC (raOk s s.me sc) := by
  have invt := inv_raOk s h.inv hdq s.me sc
  cases hf : s.find s.me with
  | none =>
    cases sc with
    | none => exact sc_disq _ invt (raOk_none_disq fun c hc => by rw [hf] at hc; cases hc)
    | some a =>
      rw [raOk_first hf] at invt ⊢
      have hno : ∀ c, ¬ ownAnswered (s.setC s.me (early a)) c := fun c hc => by
        cases hc.1.symm.trans (find_setC_same s s.me (early a)); cases hc.2.1
      refine ⟨invt, fun _ c hc => absurd hc (hno c), fun _ _ _ _ c hc => absurd hc (hno c), ?_, ?_⟩
      · intro _ hv v hv' _ hx
        exact h.share hdq hv v hv' (by intro c hc; rw [hf] at hc; cases hc) hx
      · intro _ hst
        obtain ⟨a1, b⟩ := h.late hdq hst
        refine ⟨a1, ?_⟩
        rcases b with b | ⟨c, hc, _⟩
        · exact Or.inl b
        · rw [hf] at hc; cases hc
  | some c =>
    cases ha : c.answerReceived
    case true => rw [raOk_idle hf ha]; exact h
    have hr : c.received = true := (h.inv.wf s.me c hf).resolve_right (by rw [ha]; exact Bool.false_ne_true)
    cases sc with
    | none => exact sc_disq _ invt (raOk_none_disq fun c' hc => by rw [hf] at hc; cases hc; exact ⟨ha, hr⟩)
    | some a =>
      cases hd : (raOk s s.me (some a)).disqualified
      case true => exact sc_disq _ invt hd
      -- the entry is complete; the answer was adopted, and checked if the vector is known
      rw [raOk_complete hf hr ha a, rcOk_early] at invt hd ⊢
      cases hv : s.vAReceived
      · simp only [hv, Bool.false_eq_true, if_false, setC_disqualified, hdq, Bool.not_false, true_and, if_true] at invt hd ⊢
        exact sc_complained _ invt (recv (early a)) (find_setC_same s s.me _) rfl
          (fun _ _ => ⟨rfl, fun hv2 => absurd (hv.symm.trans hv2) Bool.false_ne_true⟩)
          (fun hst => by rw [(h.late hdq hst).1] at hv; cases hv)
      · simp only [hv, if_true, setDisq_disqualified] at invt hd ⊢
        cases hc : s.checkComplaint s.me (recv (early a))
        · simp only [hc, Bool.not_false, true_and, if_true] at invt ⊢
          refine sc_complained _ invt (recv (early a)) ?_ rfl (fun _ _ => ⟨adoptX_x _ a, fun _ v hv' => ?_⟩) (fun _ => ?_)
          · rw [adoptX_me, setDisq_me, setC_me, find_adoptX, find_setDisq]; exact find_setC_same _ _ _
          · rw [adoptX_vA, setDisq_vA, setC_vA] at hv'
            unfold St.checkComplaint at hc
            rw [hv'] at hc
            rw [adoptX_me, setDisq_me, setC_me]
            simpa using hc
          · rw [adoptX_vAReceived, setDisq_vAReceived, setC_vAReceived]; exact hv
        · simp [hc] at hd

theorem own_ok_of_not_anyBad (s : St O) (v : O.Vec) (hn : KeysNodup s) (hb : anyBad (setVec s v) = false)
    (c : Complaint) (hc : ownAnswered s c) : O.checkLog v s.me c.answer = true := by
  have hf : (setVec s v).find s.me = some c := hc.1
  rw [anyBad_eq (setVec s v) hn s.me, hf] at hb
  have : entryBad (setVec s v) s.me c = false := (Bool.or_eq_false_iff.1 hb).1
  unfold entryBad at this
  rw [hc.2.1, hc.2.2, cc_setVec] at this
  simpa using this

theorem sc_vec (s : St O) (h : SC s) (hdq : s.disqualified = false) (d : Bytes) : SC (interp s (.vec d)) := by
  have invt : Inv (FvssQ.receiveVerifVector s s.dealer d).1 := inv_interp s h.inv hdq (.vec d) trivial
  show SC (FvssQ.receiveVerifVector s s.dealer d).1
  revert invt
  cases hg : (s.sharesTimeout || s.vAReceived)
  case true => rw [rv_noop s _ d (Bool.or_eq_true_iff.1 hg)]; exact fun _ => h
  have hst := (Bool.or_eq_false_iff.1 hg).1
  have late : ∀ (t : St O) {p : Prop}, t.sharesTimeout = s.sharesTimeout → t.sharesTimeout = true → p :=
    fun t _ e ht => by rw [e, hst] at ht; cases ht
  -- what is known of the own answered entry once the vector `v` passed the check of the table
  have hold : ∀ v, anyBad (setVec s v) = false → ∀ c, ownAnswered (setVec s v) c → (setVec s v).x = c.answer ∧
      ((setVec s v).vAReceived = true → ∀ v', (setVec s v).vA = some v' →
        O.checkLog v' (setVec s v).me c.answer = true) := by
    intro v hb c hc
    refine ⟨h.adopt hdq c hc, fun _ v' hv' => ?_⟩
    cases Option.some.inj hv'
    exact own_ok_of_not_anyBad s v h.inv.nodup hb c hc
  refine rv_cases (P := fun r => Inv r.1 → SC r.1) s s.dealer d (fun ho => absurd rfl ho)
    (fun _ hg' => by rw [hg] at hg'; cases hg') (fun _ _ i => sc_disq _ i rfl) (fun _ _ _ i => sc_disq _ i rfl)
    (fun v _ hb _ _ i => sc_bc (setVec s v) i (fun _ _ => rfl) hdq (hold v hb) (late _ rfl)) ?_
  -- the vector is stored and no complaint goes out
  intro v _ hb hxs iT
  exact ⟨iT, fun _ c hc => (hold v hb c hc).1, fun _ hvr v' hv' c hc => (hold v hb c hc).2 hvr v' hv',
    fun _ _ v' hv' _ hx => by cases Option.some.inj hv'; rw [← vs_setVec]; exact hxs hx, fun _ => late _ rfl⟩

theorem sc_share (s : St O) (h : SC s) (hdq : s.disqualified = false) (d : Bytes) : SC (interp s (.share d)) := by
  have invt : Inv (FvssQ.receiveShare s s.dealer d).1 := inv_interp s h.inv hdq (.share d) trivial
  show SC (FvssQ.receiveShare s s.dealer d).1
  revert invt
  cases hg : (s.sharesTimeout || s.xReceived)
  case true => rw [rs_noop s _ d (Bool.or_eq_true_iff.1 hg)]; exact fun _ => h
  obtain ⟨hst, hx⟩ := Bool.or_eq_false_iff.1 hg
  have late : ∀ (t : St O) {p : Prop}, t.sharesTimeout = s.sharesTimeout → t.sharesTimeout = true → p :=
    fun t _ e ht => by rw [e, hst] at ht; cases ht
  -- before its share arrived (and before the timeout) the node has not complained
  have hnoc : ∀ c, ¬ ownAnswered s c := by
    intro c hc
    rcases h.inv.own c hc.1 hc.2.1 with h1 | h1
    · rw [hx] at h1; cases h1
    · rw [hst] at h1; cases h1
  -- so a complaint built now finds no answer to adopt
  have bc : ∀ t : St O, ownAnswered t = ownAnswered s → t.disqualified = false → VecOK t →
      t.sharesTimeout = s.sharesTimeout → Inv (FvssQ.buildComplaint t).1 → SC (FvssQ.buildComplaint t).1 :=
    fun t e hd hv hs invt => sc_bc t invt hv hd (fun c hc => by rw [e] at hc; exact absurd hc (hnoc c)) (late t hs)
  refine rs_cases (P := fun r => Inv r.1 → SC r.1) s s.dealer d (fun ho => absurd rfl ho)
    (fun _ hg' => by rw [hg] at hg'; cases hg') (fun _ => bc (markX s) rfl hdq h.inv.vecok rfl)
    (fun x0 _ _ _ => bc (setX s x0) rfl hdq h.inv.vecok rfl) ?_
  intro x0 _ hxs iT
  refine ⟨iT, fun _ c hc => absurd hc (hnoc c), fun _ _ _ _ c hc => absurd hc (hnoc c), fun _ hvr v' hv' _ _ => ?_,
    fun _ => late _ rfl⟩
  have := hxs hvr
  unfold St.verifyShare at this
  rw [show (setX s x0).vA = some v' from hv'] at this
  exact this

theorem sc_interp (s : St O) (h : SC s) (hdq : s.disqualified = false) (k : Kind) (ok : KOK s k) : SC (interp s k) := by
  cases k with
  | noop => exact h
  | disq => exact sc_disq _ (inv_interp s h.inv hdq .disq trivial) rfl
  | cmpl k => exact sc_cmpl s h hdq k ok
  | ans j sc =>
    by_cases hj : j = s.me
    · subst hj; exact sc_ans_me s h hdq sc
    · exact sc_ans_other s h hdq j sc hj
  | vec d => exact sc_vec s h hdq d
  | share d => exact sc_share s h hdq d

theorem sc_step (s : St O) (h : SC s) (e : Dl) : SC (step s e) := by
  rw [step_run s e h.inv.hme, run_eq_live]
  cases hd : s.disqualified
  · rw [live_ok _ hd]; exact sc_interp s h hd _ (classify_src s e).2
  · rw [live_disq _ hd]; exact h

theorem sc_runList (s : St O) (h : SC s) (l : List Dl) : SC (runList s l) :=
  runList_keeps (I := SC) (fun s e h => sc_step s h e) s h l

theorem sc_tstep (s : St O) (h : SC s) : SC (tstep s) := by
  have invt := inv_tstep s h.inv
  revert invt
  refine tstep_cases (P := fun t => Inv t → SC t) s ?_ ?_ ?_ ?_ ?_ ?_ ?_
  · exact fun hd _ i => sc_disq _ i hd
  · exact fun hd _ i => sc_disq _ i hd
  · exact fun _ _ _ i => sc_disq _ i rfl
  · exact fun hdq _ hv _ i => sc_bc (stFlag s) i h.inv.vecok hdq
      (fun c hc => ⟨h.adopt hdq c hc, fun hvr v hvA => h.valid hdq hvr v hvA c hc⟩) (fun _ => hv)
  · exact fun _ _ hv hx i => ⟨i, h.adopt, h.valid, h.share, fun _ _ => ⟨hv, Or.inl hx⟩⟩
  · exact fun _ _ _ i => sc_disq _ i rfl
  · exact fun hdq _ _ i => sc_transfer s (ctFlag s) h i rfl rfl rfl rfl rfl rfl rfl hdq

/-- **when `End` returns keys, the private share matches the public data**: in a state reached after the first
    timeout, the returned share passes the check against the stored vector, whose keys are the ones returned -/
theorem keys_consistent (s : St O) (h : SC s) (hst : s.sharesTimeout = true) (x : Nat) (Y : Bytes) (ys : List Bytes)
    (hk : endRes s = .keys x Y ys) :
    ∃ v, s.vA = some v ∧ Y = O.groupKey v ∧ ys = O.pubShares v ∧ x = s.x ∧ O.checkLog v s.me x = true := by
  obtain ⟨ex, _, hp⟩ := endRes_keys hk
  obtain ⟨hdq, hun, v, hv, _, e⟩ := pubRes_some hp
  refine ⟨v, hv, (Prod.mk.inj e).1, (Prod.mk.inj e).2, ex, ?_⟩
  rw [ex]
  obtain ⟨hvr, hor⟩ := h.late hdq hst
  -- a complaint of the node was answered, or `End` would have failed
  by_cases hc : ∃ c, s.find s.me = some c ∧ c.received = true
  · obtain ⟨c, hf, hr⟩ := hc
    have hoa : ownAnswered s c := ⟨hf, hr, (unanswered_eq_false_iff s).1 hun _ (St.mem_of_find hf) hr⟩
    rw [h.adopt hdq c hoa]
    exact h.valid hdq hvr v hv c hoa
  · have hnc : notComplained s := fun c hf => Bool.eq_false_iff.2 (fun hr => hc ⟨c, hf, hr⟩)
    exact h.share hdq hvr v hv hnc (hor.resolve_right hc)

/-- the state after the three rounds of deliveries and the two timeouts -/
def final (s : St O) (r1 r2 r3 : List Dl) : St O := runList (tstep (runList (tstep (runList s r1)) r2)) r3

theorem final_cfg (s : St O) (r1 r2 r3 : List Dl) : (final s r1 r2 r3).me = s.me ∧ (final s r1 r2 r3).dealer = s.dealer ∧
    (final s r1 r2 r3).size = s.size ∧ (final s r1 r2 r3).sharesTimeout = true := by
  have c1 := runList_cfg_any s r1
  have c2 := runList_cfg_any (tstep (runList s r1)) r2
  have c3 := runList_cfg_any (tstep (runList (tstep (runList s r1)) r2)) r3
  exact ⟨c3.me.trans ((tstep_me _).trans (c2.me.trans ((tstep_me _).trans c1.me))),
    c3.dealer.trans ((tstep_dealer _).trans (c2.dealer.trans ((tstep_dealer _).trans c1.dealer))),
    c3.size.trans ((tstep_size _).trans (c2.size.trans ((tstep_size _).trans c1.size))),
    c3.sharesTimeout.trans (tstep_st _)⟩

theorem inv_empty (s : St O) (hme : s.me ≠ s.dealer) (hc : s.complaints = []) (hv : s.vAReceived = false) : Inv s := by
  have hf : ∀ k, s.find k = none := fun k => by unfold St.find; rw [hc]; rfl
  refine ⟨hme, by unfold KeysNodup; rw [hc]; exact List.nodup_nil, ?_, ?_, ?_⟩
  · intro k c h; rw [hf] at h; cases h
  · intro h; rw [hv] at h; cases h
  · intro c h; rw [hf] at h; cases h

theorem sc_fresh (size threshold me dealer : Nat) (hne : me ≠ dealer) :
    SC ({ size := size, threshold := threshold, me := me, dealer := dealer, running := true } : St O) := by
  refine ⟨inv_empty _ hne rfl rfl, ?_, ?_, ?_, ?_⟩
  · intro _ c hc; have := hc.1; cases this
  · intro _ hv; cases hv
  · intro _ hv; cases hv
  · intro _ hv; cases hv

/-- **whatever the dealer and the others send, in whatever order: keys returned by `End` are consistent** -/
theorem exec_keys_consistent (s : St O) (h : SC s) (r1 r2 r3 : List Dl) (x : Nat) (Y : Bytes) (ys : List Bytes)
    (hk : exec s r1 r2 r3 = .keys x Y ys) :
    ∃ v, (final s r1 r2 r3).vA = some v ∧ Y = O.groupKey v ∧ ys = O.pubShares v ∧
      O.checkLog v s.me x = true := by
  have hF : SC (final s r1 r2 r3) := sc_runList _ (sc_tstep _ (sc_runList _ (sc_tstep _ (sc_runList s h r1)) r2)) r3
  obtain ⟨v, a1, a2, a3, _, a5⟩ := keys_consistent _ hF (final_cfg s r1 r2 r3).2.2.2 x Y ys hk
  rw [(final_cfg s r1 r2 r3).1] at a5
  exact ⟨v, a1, a2, a3, a5⟩

end Proofs.DkgCommute
