import Proofs.EcdsaRoots
import Proofs.FpLemmas
import Proofs.Bytes

/-! X9.62-compressed ECDSA public keys (33 bytes `02/03 ‖ X`): what `DecodePublicKeyCompressed` accepts re-encodes
to exactly the input and is a reduced point of the curve; every such point round-trips. Generic in the curve
(prime `p ≡ 3 mod 4` below 2^256, no point with `y = 0`), instantiated for P-256 and secp256k1. -/

namespace Proofs.EcdsaCodec
open Model Model.Ecdsa Proofs.Fp

structure GoodSpec (S : CurveSpec) : Prop where
  prime : Nat.Prime S.p
  mod4 : S.p % 4 = 3
  lt : S.p < 2 ^ 256
  ops : S.C.f = Fp.ops S.p
  noRoot : ∀ t : ZMod S.p, t ^ 3 + (S.C.a : ZMod S.p) * t + (S.C.b : ZMod S.p) ≠ 0

theorem GoodSpec.odd {S : CurveSpec} (g : GoodSpec S) : S.p % 2 = 1 := by
  rw [← Nat.mod_mod_of_dvd S.p (by decide : 2 ∣ 4), g.mod4]

/-- `x³ + a·x + b` as the decoder computes it -/
def rhs (S : CurveSpec) (x : Nat) : Nat :=
  Fp.add S.p (Fp.add S.p (Fp.mul S.p (Fp.mul S.p x x) x) (Fp.mul S.p S.C.a x)) S.C.b

theorem rhs_cast (S : CurveSpec) (x : Nat) :
    ((rhs S x : Nat) : ZMod S.p) = (x : ZMod S.p) ^ 3 + (S.C.a : ZMod S.p) * x + (S.C.b : ZMod S.p) := by
  unfold rhs Fp.add Fp.mul
  simp only [ZMod.natCast_mod, Nat.cast_add, Nat.cast_mul]
  ring

theorem rhs_lt (S : CurveSpec) (g : GoodSpec S) (x : Nat) : rhs S x < S.p := Nat.mod_lt _ g.prime.pos

theorem rhs_ne_zero (S : CurveSpec) (g : GoodSpec S) (x : Nat) : rhs S x ≠ 0 := by
  intro h
  have := rhs_cast S x
  rw [h] at this
  exact g.noRoot (x : ZMod S.p) (by rw [← this]; simp)

theorem decode_unfold (S : CurveSpec) (g : GoodSpec S) (b : Bytes) :
    decodePublicKeyCompressed S b =
      if b.length ≠ 33 then none
      else if (b.headD 0).toNat ≠ 2 ∧ (b.headD 0).toNat ≠ 3 then none
      else if beNat (b.drop 1) ≥ S.p then none
      else match Fp.sqrt? S.p (rhs S (beNat (b.drop 1))) with
        | none => none
        | some y => some (beNat (b.drop 1), if y % 2 ≠ (b.headD 0).toNat % 2 then Fp.neg S.p y else y) := by
  unfold decodePublicKeyCompressed rhs
  rw [g.ops]
  rfl

def Valid (S : CurveSpec) (Q : Nat × Nat) : Prop := Q.1 < S.p ∧ Q.2 < S.p ∧ Q.2 * Q.2 % S.p = rhs S Q.1

theorem prefix_byte : ∀ n : Nat, n = 2 ∨ n = 3 → UInt8.ofNat (2 + n % 2) = UInt8.ofNat n := by
  rintro n (rfl | rfl) <;> rfl

theorem prefix_of_parity : ∀ s : Nat, s < 2 →
    (UInt8.ofNat (2 + s)).toNat = 2 + s ∧ ¬ (2 + s ≠ 2 ∧ 2 + s ≠ 3) ∧ (2 + s) % 2 = s := by decide

/-- **canonical and validating**: an accepted compressed key is a reduced point of the curve and re-encodes to
    exactly the input bytes -/
theorem pkc_canonical (S : CurveSpec) (g : GoodSpec S) (b : Bytes) (Q : Nat × Nat)
    (h : decodePublicKeyCompressed S b = some Q) : encodePublicKeyCompressed Q = b ∧ Valid S Q := by
  have : Fact S.p.Prime := ⟨g.prime⟩
  rw [decode_unfold S g] at h
  obtain ⟨hl, h⟩ := of_ite_ne h nofun
  obtain ⟨h0, t, rfl⟩ : ∃ h0 t, b = h0 :: t := by
    cases b with
    | nil => exact absurd (by decide) hl
    | cons a t => exact ⟨_, _, rfl⟩
  have htl : t.length = 32 := by simpa using hl
  rw [show (h0 :: t).headD 0 = h0 from rfl, show (h0 :: t).drop 1 = t from rfl] at h
  obtain ⟨hp, h⟩ := of_ite_ne h nofun
  obtain ⟨hx, h⟩ := of_ite_ne h nofun
  cases hs : Fp.sqrt? S.p (rhs S (beNat t)) with
  | none => rw [hs] at h; cases h
  | some y =>
    rw [hs] at h
    obtain ⟨hyp, hyy⟩ := sqrt_some S.p hs
    rw [Nat.mod_eq_of_lt (rhs_lt S g _)] at hyy
    have hy0 : y ≠ 0 := by
      rintro rfl
      exact rhs_ne_zero S g (beNat t) hyy.symm
    -- the parity of the returned y is the parity of the prefix
    have hpar := sign_pick (· % 2) (Fp.neg S.p) (y := y) (s := h0.toNat % 2) (mod_two_le _) (mod_two_le _)
      (parity_neg S.p g.odd hy0 hyp)
    rw [← Option.some.inj h]
    refine ⟨?_, Nat.not_le.1 hx, ?_, ?_⟩
    · unfold encodePublicKeyCompressed
      have hnb := Model.natBE_beNat t
      rw [htl] at hnb
      dsimp only at hpar ⊢
      rw [hpar, hnb, prefix_byte h0.toNat ((not_and_or.1 hp).imp not_not.1 not_not.1), UInt8.ofNat_toNat]
    · dsimp only
      split
      · exact lt_neg S.p _
      · exact hyp
    · dsimp only
      split
      · rw [Fp.neg_sq]; exact hyy
      · exact hyy

theorem beNat_cons (h : UInt8) (t : Bytes) : beNat (h :: t) = h.toNat * 256 ^ t.length + beNat t :=
  Model.beNat_cons h t

/-- **round trip**: every reduced point of the curve encodes to bytes that decode back to it -/
theorem pkc_roundtrip (S : CurveSpec) (g : GoodSpec S) (Q : Nat × Nat) (hv : Valid S Q) :
    decodePublicKeyCompressed S (encodePublicKeyCompressed Q) = some Q := by
  have : Fact S.p.Prime := ⟨g.prime⟩
  obtain ⟨x, y⟩ := Q
  obtain ⟨hx, hy, hcurve⟩ := hv
  simp only at hx hy hcurve
  have hy0 : y ≠ 0 := by
    rintro rfl
    exact rhs_ne_zero S g x hcurve.symm
  have hpar := parity_neg S.p g.odd hy0 hy
  rw [decode_unfold S g]
  unfold encodePublicKeyCompressed
  rw [show (UInt8.ofNat (2 + (x, y).2 % 2) :: natBE 32 (x, y).1).headD 0 = UInt8.ofNat (2 + y % 2) from rfl,
    show (UInt8.ofNat (2 + (x, y).2 % 2) :: natBE 32 (x, y).1).drop 1 = natBE 32 x from rfl,
    List.length_cons, natBE_length, if_neg (not_not.2 rfl)]
  obtain ⟨hpre, hok, hmod⟩ := prefix_of_parity (y % 2) (Nat.mod_lt _ Nat.two_pos)
  have hbe : beNat (natBE 32 x) = x := by
    rw [beNat_natBE]; exact Nat.mod_eq_of_lt (hx.trans (g.lt.trans_le (by decide)))
  rw [hpre, if_neg hok, hbe, if_neg (Nat.not_le.2 hx)]
  obtain ⟨y0, hsq, hy0y⟩ := sqrt_of_square S.p g.mod4 (by have := g.lt; omega) hy0 hy hcurve
  rw [hsq, hmod]
  exact congrArg (fun y' => some (x, y')) (pick_eq (· % 2) (Fp.neg S.p) hy0y (mod_two_le _) hpar (Fp.neg_neg S.p hy))

/-- **accepted = canonical compressed encodings of curve points** -/
theorem pkc_accepts_iff (S : CurveSpec) (g : GoodSpec S) (b : Bytes) (Q : Nat × Nat) :
    decodePublicKeyCompressed S b = some Q ↔ (Valid S Q ∧ encodePublicKeyCompressed Q = b) := by
  constructor
  · intro h; exact ⟨(pkc_canonical S g b Q h).2, (pkc_canonical S g b Q h).1⟩
  · rintro ⟨hv, rfl⟩; exact pkc_roundtrip S g Q hv

theorem good_p256 : GoodSpec p256 where
  prime := (inferInstance : Fact (Nat.Prime p256P)).out
  mod4 := by decide +kernel
  lt := by decide +kernel
  ops := rfl
  noRoot := Proofs.EcdsaRoots.p256_no_root

theorem good_k256 : GoodSpec k256 where
  prime := (inferInstance : Fact (Nat.Prime k256P)).out
  mod4 := by decide +kernel
  lt := by decide +kernel
  ops := rfl
  noRoot := Proofs.EcdsaRoots.k256_no_root

end Proofs.EcdsaCodec
