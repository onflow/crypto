import Proofs.CurveInst
import Proofs.CurveRep
import Proofs.Bytes

/-! The executable ECDSA model accepts every signature its own signing function produces (every private
key, nonce and hash), by the group law of the curve: for any curve with the facts `Good` (instances for P-256 and
secp256k1 in `Props/C11Model.lean`), through `signWith_eq_some_iff` and `verifyHash_iff`, which say what the two
functions compute. -/

namespace Proofs.EcdsaModel
open Model Model.Curve Proofs.CurveGroup Proofs.CurveInst

structure Good (S : Ecdsa.CurveSpec) (a b : ℕ) [Fact (Nat.Prime S.p)] [Fact (Nat.Prime S.n)] : Prop where
  hC : S.C = C S.p a b
  hΔ : (W S.p a b).Δ ≠ 0
  h2 : 2 < S.p
  hb : S.p < 2 ^ 800
  hg : Valid S.p a b S.g
  hn : Curve.mul S.C S.n S.g = none
  n2 : 2 < S.n
  n256 : S.n < 2 ^ 256

variable {S : Ecdsa.CurveSpec} {a b : ℕ} [Fact (Nat.Prime S.p)] [hn : Fact (Nat.Prime S.n)]

/-! `signWith` and `verifyHash` without their control flow: the half `s` of a signature, and the point whose abscissa
the verification compares with `r`. -/

def sigS (S : Ecdsa.CurveSpec) (d k r : ℕ) (h : Bytes) : ℕ :=
  powMod k (S.n - 2) S.n * ((beNat (h.take 32) + r * d) % S.n) % S.n

theorem signWith_eq_some_iff (S : Ecdsa.CurveSpec) (d k : ℕ) (h sig : Bytes) :
    Ecdsa.signWith S d k h = some sig ↔ ∃ x y, Curve.mul S.C k S.g = some (x, y) ∧ x % S.n ≠ 0 ∧
      sigS S d k (x % S.n) h ≠ 0 ∧ sig = natBE 32 (x % S.n) ++ natBE 32 (sigS S d k (x % S.n) h) := by
  unfold Ecdsa.signWith sigS
  cases Curve.mul S.C k S.g with
  | none => exact ⟨fun h' => (nomatch h'), fun ⟨_, _, h', _⟩ => (nomatch h')⟩
  | some xy =>
    simp only [Option.some.injEq, not_or, Option.ite_none_left_eq_some]
    exact ⟨fun ⟨⟨h1, h2⟩, h3⟩ => ⟨xy.1, xy.2, rfl, h1, h2, h3.symm⟩, fun ⟨x, y, e, h1, h2, h3⟩ => by
      cases e; exact ⟨⟨h1, h2⟩, h3.symm⟩⟩

def verifyPoint (S : Ecdsa.CurveSpec) (Q : ℕ × ℕ) (e r s : ℕ) : Curve.Aff ℕ :=
  Curve.addAff S.C (Curve.mul S.C (e % S.n * powMod s (S.n - 2) S.n % S.n) S.g)
    (Curve.mul S.C (r * powMod s (S.n - 2) S.n % S.n) (some Q))

theorem verifyHash_iff (S : Ecdsa.CurveSpec) (Q : ℕ × ℕ) (h sig : Bytes) :
    Ecdsa.verifyHash S Q h sig = true ↔ sig.length = 64 ∧
      beNat (sig.take 32) ≠ 0 ∧ beNat (sig.drop 32) ≠ 0 ∧ beNat (sig.take 32) < S.n ∧ beNat (sig.drop 32) < S.n ∧
      ∃ x y, verifyPoint S Q (beNat (h.take 32)) (beNat (sig.take 32)) (beNat (sig.drop 32)) = some (x, y) ∧
        x % S.n = beNat (sig.take 32) := by
  unfold Ecdsa.verifyHash verifyPoint
  generalize beNat (sig.take 32) = r
  generalize beNat (sig.drop 32) = s
  by_cases hl : sig.length = 64
  swap
  · rw [if_pos hl]; exact ⟨fun h' => (nomatch h'), fun h' => absurd h'.1 hl⟩
  rw [if_neg (not_not.2 hl)]
  by_cases hz : r = 0 ∨ s = 0 ∨ r ≥ S.n ∨ s ≥ S.n
  · rw [if_pos hz]
    exact ⟨fun h' => (nomatch h'), fun ⟨_, h1, h2, h3, h4, _⟩ => by omega⟩
  rw [if_neg hz]
  simp only []
  cases Curve.addAff S.C _ _ with
  | none => exact ⟨fun h' => (nomatch h'), fun ⟨_, _, _, _, _, _, _, h', _⟩ => (nomatch h')⟩
  | some xy =>
    simp only [decide_eq_true_eq, Option.some.injEq]
    exact ⟨fun h' => ⟨hl, by omega, by omega, by omega, by omega, xy.1, xy.2, rfl, h'⟩,
      fun ⟨_, _, _, _, _, x, y, e, h'⟩ => by cases e; exact h'⟩

theorem parse_sig {r s : ℕ} (hr : r < 2 ^ 256) (hs : s < 2 ^ 256) :
    (natBE 32 r ++ natBE 32 s).length = 64 ∧ beNat ((natBE 32 r ++ natBE 32 s).take 32) = r ∧
      beNat ((natBE 32 r ++ natBE 32 s).drop 32) = s := by
  have h256 : (256 : ℕ) ^ 32 = 2 ^ 256 := by norm_num
  refine ⟨by rw [List.length_append, Model.natBE_length, Model.natBE_length], ?_, ?_⟩
  · rw [List.take_append_of_le_length (by rw [Model.natBE_length]), List.take_of_length_le (by rw [Model.natBE_length]),
      Model.beNat_natBE, h256, Nat.mod_eq_of_lt hr]
  · rw [List.drop_append_of_le_length (by rw [Model.natBE_length]), List.drop_of_length_le (by rw [Model.natBE_length]),
      List.nil_append, Model.beNat_natBE, h256, Nat.mod_eq_of_lt hs]

namespace Good
variable (G : Good S a b)
include G

theorem n_pos : 0 < S.n := lt_trans (by decide) G.n2
theorem n_bits : S.n < 2 ^ 800 := lt_trans G.n256 (by decide +kernel)

theorem mul (k : ℕ) (hk : k < 2 ^ 800) (P : Curve.Aff ℕ) (hP : Valid S.p a b P) :
    Curve.mul S.C k P = Proofs.BlsConcrete.ofPoint S.p a b (k • toPoint S.p a b P) :=
  G.hC ▸ mul_ofPoint S.p a b G.hΔ G.h2 G.hb k hk P hP

theorem valid_mul (k : ℕ) (hk : k < 2 ^ 800) (P : Curve.Aff ℕ) (hP : Valid S.p a b P) :
    Valid S.p a b (Curve.mul S.C k P) := by
  rw [G.mul k hk P hP]; exact valid_ofPoint ..

theorem addAff (P Q : Curve.Aff ℕ) (hP : Valid S.p a b P) (hQ : Valid S.p a b Q) :
    Curve.addAff S.C P Q = Proofs.BlsConcrete.ofPoint S.p a b (toPoint S.p a b P + toPoint S.p a b Q) :=
  G.hC ▸ addAff_ofPoint S.p a b G.hΔ G.h2 G.hb P Q hP hQ

theorem order : S.n • toPoint S.p a b S.g = 0 :=
  (mul_eq_none_iff S.p a b G.hΔ G.h2 G.hb S.n G.n_bits S.g G.hg).1 (G.hC ▸ G.hn)

theorem pk {d : ℕ} (hd : d < S.n) {Q : ℕ × ℕ} (hQ : Ecdsa.publicKeyOf S d = some Q) :
    Valid S.p a b (some Q) ∧ toPoint S.p a b (some Q) = d • toPoint S.p a b S.g := by
  unfold Ecdsa.publicKeyOf at hQ
  rw [← hQ, G.mul d (hd.trans G.n_bits) S.g G.hg]
  exact ⟨valid_ofPoint .., toPoint_ofPoint ..⟩

/-- `u₁ • G + u₂ • Q = ((e + r d) / s) • G` under the key `Q = d • G` -/
theorem verifyPoint_eq {d : ℕ} (hd : d < S.n) {Q : ℕ × ℕ} (hQ : Ecdsa.publicKeyOf S d = some Q) (e r s : ℕ) :
    verifyPoint S Q e r s = Curve.mul S.C ((e + r * d) % S.n * powMod s (S.n - 2) S.n % S.n) S.g := by
  have lt : ∀ m, m % S.n < 2 ^ 800 := fun m => (Nat.mod_lt _ G.n_pos).trans G.n_bits
  obtain ⟨vQ, tQ⟩ := G.pk hd hQ
  unfold verifyPoint
  rw [G.mul _ (lt _) S.g G.hg, G.mul _ (lt _) (some Q) vQ, G.mul _ (lt _) S.g G.hg,
    G.addAff _ _ (valid_ofPoint ..) (valid_ofPoint ..), toPoint_ofPoint, toPoint_ofPoint, tQ, smul_smul, ← add_smul]
  refine congrArg _ (nsmul_congr_mod G.order ((ZMod.natCast_eq_natCast_iff' _ _ _).1 ?_))
  simp only [Nat.cast_add, Nat.cast_mul, ZMod.natCast_mod]
  ring

/-- `s = m / k` and `k = m / s` say the same of non-zero residues -/
theorem inv_swap {x y m : ℕ} (hx : x < S.n) (hy : y = powMod x (S.n - 2) S.n * m % S.n) (hy0 : y ≠ 0) :
    m * powMod y (S.n - 2) S.n % S.n = x := by
  have cy : (y : ZMod S.n) = (x : ZMod S.n)⁻¹ * m := by
    rw [hy, ZMod.natCast_mod, Nat.cast_mul, Proofs.PowMod.powMod_inv S.n G.n2 G.n_bits]
  have y0 : (y : ZMod S.n) ≠ 0 := fun h' => hy0 (Nat.eq_zero_of_dvd_of_lt ((ZMod.natCast_eq_zero_iff y S.n).1 h')
    (hy ▸ Nat.mod_lt _ G.n_pos))
  have hc : ((m * powMod y (S.n - 2) S.n % S.n : ℕ) : ZMod S.n) = x := by
    rw [ZMod.natCast_mod, Nat.cast_mul, Proofs.PowMod.powMod_inv S.n G.n2 G.n_bits, cy, mul_inv, inv_inv, mul_left_comm,
      mul_inv_cancel₀ (fun h' => y0 (by rw [cy, h', mul_zero])), mul_one]
  exact ((ZMod.natCast_eq_natCast_iff _ _ _).1 hc).eq_of_lt_of_lt (Nat.mod_lt _ G.n_pos) hx

end Good

/-- **sign ⇒ verify in the executable model**: whatever the private key `d`, the nonce `k` and the hash `h`, if the
    model's signing function returns a signature then the model's verification accepts it under `d • G` -/
theorem sign_verify (G : Good S a b) (d k : ℕ) (hd : d < S.n) (hk : k < S.n) (h sig : Bytes) (Q : ℕ × ℕ)
    (hQ : Ecdsa.publicKeyOf S d = some Q) (hs : Ecdsa.signWith S d k h = some sig) :
    Ecdsa.verifyHash S Q h sig = true := by
  obtain ⟨x, y, hR, hr0, hs0, rfl⟩ := (signWith_eq_some_iff S d k h sig).1 hs
  have lt : ∀ m, m % S.n < 2 ^ 256 := fun m => (Nat.mod_lt _ G.n_pos).trans G.n256
  obtain ⟨hl, br, bs⟩ := parse_sig (s := sigS S d k (x % S.n) h) (lt x) (lt _)
  refine (verifyHash_iff S Q h _).2 ⟨hl, ?_⟩
  rw [br, bs]
  refine ⟨hr0, hs0, Nat.mod_lt _ G.n_pos, Nat.mod_lt _ G.n_pos, x, y, ?_, rfl⟩
  rw [G.verifyPoint_eq hd hQ, G.inv_swap (y := sigS S d k (x % S.n) h) hk rfl hs0, hR]

end Proofs.EcdsaModel
