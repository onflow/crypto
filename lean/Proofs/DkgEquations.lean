import Proofs.DkgTable

/-! Every handler of Feldman-VSS-Qual: as one equation for state and outputs, for every instance and sender (`bc_pair` …
`ra_pair`); as a state equation under the hypotheses of the case at hand (`bc_eq`, the total `rv_total` / `rs_total` for
the dealer's messages, `rc_eq` at a non-dealer before the second timeout, `ra_eq` for the dealer's answer); as a case rule
(`buildComplaint_cases`, `rv_cases`, `rs_cases`, `rc_cases`); and, where it rewrites one table entry, as a single-entry
update (`bcU`, `rcU`, `raU`, `wU`; `bc_upd`, `rcOk_upd` …) whose descriptor reads that entry, the vector, the share and
the fields `me`, `disqualified` (the `*_congr` lemmas at the end say exactly which). `SameCfg`: the fields an update
leaves alone. -/

namespace Proofs.DkgCommute
open Model Model.Dkg
variable {O : Ops}

/-- a table entry once `received` is set -/
def recv (c : Complaint) : Complaint := { c with received := true }

def fresh : Complaint := { received := true, answerReceived := false }

/-- the node's complaint on the wire: the dealer is flagged, then the complaint is broadcast -/
def cpair (d : Nat) : List Out := [.flag d, .bcast [tagComplaint, UInt8.ofNat d]]

theorem bc_pair (s : St O) : FvssQ.buildComplaint s =
    match s.find s.me with
    | none => (s.setC s.me fresh, cpair s.dealer)
    | some c =>
      if c.received then (s, [])
      else if c.answerReceived then
        if s.vAReceived ∧ s.vA.isSome then
          if s.checkComplaint s.me (recv c) then
            (setDisq (s.setC s.me (recv c)) true, cpair s.dealer ++ [.disq s.dealer])
          else (adoptX (setDisq (s.setC s.me (recv c)) false) c.answer, cpair s.dealer)
        else (adoptX (s.setC s.me (recv c)) c.answer, cpair s.dealer)
      else (s.setC s.me (recv c), cpair s.dealer) := by
  unfold FvssQ.buildComplaint recv setDisq adoptX
  cases hf : s.find s.me with
  | none => rfl
  | some c =>
    obtain ⟨r, ar, ans⟩ := c
    cases r <;> cases ar <;> simp only [Bool.false_eq_true, if_false, if_true]
    · rfl
    · -- the code tests the state after `setC`; its fields are those of `s`
      simp only [setC_vAReceived, setC_vA, setC_me, cc_setC]
      by_cases h3 : s.vAReceived = true ∧ s.vA.isSome = true
      · simp only [h3, and_self, if_true]
        by_cases hc : s.checkComplaint s.me ⟨true, true, ans⟩ = true
        · simp only [hc, if_true]; rfl
        · simp only [hc]; rfl
      · simp only [h3, if_false]; rfl

/-- Case rule: `P`, a property of the state and outputs after the call, holds if it holds of each outcome under the
    guards that lead to it; used as `buildComplaint_cases (P := fun r => …) s …`, one argument per outcome. An entry
    made by an early answer is completed and the answer checked against the vector (`bad`, `good`) or, without a
    vector, adopted unchecked (`blind`). -/
theorem buildComplaint_cases {P : St O × List Out → Prop} (s : St O)
    (first : s.find s.me = none → P (s.setC s.me fresh, cpair s.dealer))
    (done : ∀ c, s.find s.me = some c → c.received = true → P (s, []))
    (bad : ∀ c, s.find s.me = some c → c.received = false → c.answerReceived = true →
      s.checkComplaint s.me (recv c) = true →
      P (setDisq (s.setC s.me (recv c)) true, cpair s.dealer ++ [.disq s.dealer]))
    (good : ∀ c, s.find s.me = some c → c.received = false → c.answerReceived = true → s.vAReceived = true →
      s.vA.isSome = true → s.checkComplaint s.me (recv c) = false →
      P (adoptX (setDisq (s.setC s.me (recv c)) false) c.answer, cpair s.dealer))
    (blind : ∀ c, s.find s.me = some c → c.received = false → c.answerReceived = true →
      ¬ (s.vAReceived = true ∧ s.vA.isSome = true) → P (adoptX (s.setC s.me (recv c)) c.answer, cpair s.dealer))
    (plain : ∀ c, s.find s.me = some c → c.received = false → c.answerReceived = false →
      P (s.setC s.me (recv c), cpair s.dealer)) : P (FvssQ.buildComplaint s) := by
  rw [bc_pair]
  cases hf : s.find s.me with
  | none => exact first hf
  | some c =>
    show P (if c.received = true then _ else _)
    cases hr : c.received
    case true => exact done c hf hr
    rw [if_neg Bool.false_ne_true]
    cases ha : c.answerReceived
    case false => exact plain c hf hr ha
    rw [if_pos rfl]
    by_cases hv : s.vAReceived = true ∧ s.vA.isSome = true
    · rw [if_pos hv]
      cases hc : s.checkComplaint s.me (recv c)
      · exact good c hf hr ha hv.1 hv.2 hc
      · exact bad c hf hr ha hc
    · rw [if_neg hv]; exact blind c hf hr ha hv

theorem bc_eq (s : St O) : (FvssQ.buildComplaint s).1 =
    match s.find s.me with
    | none => s.setC s.me fresh
    | some c =>
      if c.received then s
      else if c.answerReceived then
        if s.vAReceived ∧ s.vA.isSome then
          if s.checkComplaint s.me (recv c) then setDisq (s.setC s.me (recv c)) true
          else adoptX (setDisq (s.setC s.me (recv c)) false) c.answer
        else adoptX (s.setC s.me (recv c)) c.answer
      else s.setC s.me (recv c) := by
  rw [bc_pair]
  cases s.find s.me with
  | none => rfl
  | some c => simp only [apply_ite Prod.fst]

theorem bc_received (s : St O) (c : Complaint) (h : s.find s.me = some c) (hr : c.received = true) :
    (FvssQ.buildComplaint s).1 = s := by
  rw [bc_eq, h]
  simp only [hr, if_true]

def bcU (fc : Option Complaint) (vOK : Bool) (chk : Complaint → Bool) : Upd :=
  match fc with
  | none => { entry := some fresh }
  | some c =>
    if c.received then {}
    else if c.answerReceived then
      if vOK then
        if chk (recv c) then { entry := some (recv c), disq := some true }
        else { entry := some (recv c), disq := some false, x := some c.answer }
      else { entry := some (recv c), x := some c.answer }
    else { entry := some (recv c) }

theorem bc_upd (s : St O) : (FvssQ.buildComplaint s).1 =
    applyUpd s s.me (bcU (s.find s.me) (s.vAReceived && s.vA.isSome) (s.checkComplaint s.me)) := by
  rw [bc_eq]
  unfold bcU applyUpd
  cases s.find s.me with
  | none => rfl
  | some c =>
    obtain ⟨r, ar, a0⟩ := c
    cases r <;> cases ar <;> cases hv : s.vAReceived <;> cases hi : s.vA.isSome <;>
      simp [recv, hv, hi] <;>
      (by_cases hc : s.checkComplaint s.me { received := true, answerReceived := true, answer := a0 } = true <;> simp [hc])

/-- effect of a well-formed vector on a state that awaits one -/
def rvOk (s : St O) (v : O.Vec) : St O :=
  if anyBad (setVec s v) then setDisq (setVec s v) true
  else if s.xReceived then (if !(setVec s v).verifyShare then (FvssQ.buildComplaint (setVec s v)).1 else setVec s v)
  else setVec s v

theorem rv_pair (s : St O) (o : Nat) (d : Bytes) : FvssQ.receiveVerifVector s o d =
    if o ≠ s.dealer then (s, [])
    else if s.sharesTimeout || s.vAReceived then (s, [.flag o])
    else match parseVec s d with
      | none => (vecBad s, [.disq o])
      | some v =>
        if anyBad (setVec s v) then (setDisq (setVec s v) true, [.disq s.dealer])
        else if s.xReceived then
          (if !(setVec s v).verifyShare then FvssQ.buildComplaint (setVec s v) else (setVec s v, []))
        else (setVec s v, []) := by
  unfold FvssQ.receiveVerifVector parseVec anyBad entryBad setVec setDisq vecBad
  by_cases ho : o ≠ s.dealer
  · rw [if_pos ho, if_pos ho]
  rw [if_neg ho, if_neg ho]
  by_cases hst : s.sharesTimeout = true
  · rw [if_pos hst, if_pos (Bool.or_eq_true_iff.2 (Or.inl hst))]
  rw [if_neg hst]
  by_cases hv : s.vAReceived = true
  · rw [if_pos hv, if_pos (Bool.or_eq_true_iff.2 (Or.inr hv))]
  have hn : ¬ (s.sharesTimeout || s.vAReceived) = true := fun h => (Bool.or_eq_true_iff.1 h).elim hst hv
  rw [if_neg hv, if_neg hn]
  simp only []
  by_cases hl : d.length ≠ verifVectorSize * (s.threshold + 1)
  · rw [if_pos hl, if_pos hl]
  rw [if_neg hl, if_neg hl]
  cases O.readVec s.threshold s.size d with
  | none => rfl
  | some v => rfl

/-- Case rule for a verification vector from `o`, used like `buildComplaint_cases`; the outcome `cmpl` is left as a
    call of `buildComplaint`, to be split by that rule where needed. -/
theorem rv_cases {P : St O × List Out → Prop} (s : St O) (o : Nat) (d : Bytes)
    (other : o ≠ s.dealer → P (s, []))
    (late : o = s.dealer → (s.sharesTimeout || s.vAReceived) = true → P (s, [.flag o]))
    (bad : o = s.dealer → parseVec s d = none → P (vecBad s, [.disq o]))
    (disq : ∀ v, parseVec s d = some v → anyBad (setVec s v) = true → P (setDisq (setVec s v) true, [.disq s.dealer]))
    (cmpl : ∀ v, parseVec s d = some v → anyBad (setVec s v) = false → s.xReceived = true →
      (setVec s v).verifyShare = false → P (FvssQ.buildComplaint (setVec s v)))
    (store : ∀ v, parseVec s d = some v → anyBad (setVec s v) = false →
      (s.xReceived = true → (setVec s v).verifyShare = true) → P (setVec s v, [])) :
    P (FvssQ.receiveVerifVector s o d) := by
  rw [rv_pair]
  by_cases ho : o ≠ s.dealer
  · rw [if_pos ho]; exact other ho
  have ho' : o = s.dealer := Classical.not_not.1 ho
  rw [if_neg ho]
  cases hg : (s.sharesTimeout || s.vAReceived)
  case true => rw [if_pos rfl]; exact late ho' hg
  rw [if_neg Bool.false_ne_true]
  cases hp : parseVec s d with
  | none => exact bad ho' hp
  | some v =>
    simp only []
    cases hb : anyBad (setVec s v)
    case true => rw [if_pos rfl]; exact disq v hp hb
    rw [if_neg Bool.false_ne_true]
    cases hx : s.xReceived
    case false => rw [if_neg Bool.false_ne_true]; exact store v hp hb (fun h => by rw [hx] at h; cases h)
    rw [if_pos rfl]
    cases hl : (setVec s v).verifyShare
    · exact cmpl v hp hb hx hl
    · exact store v hp hb (fun _ => hl)

theorem rv_total (s : St O) (o : Nat) (ho : o = s.dealer) (data : Bytes) :
    (FvssQ.receiveVerifVector s o data).1 =
      if s.sharesTimeout || s.vAReceived then s
      else match parseVec s data with
        | none => vecBad s
        | some v => rvOk s v := by
  subst ho
  rw [rv_pair, if_neg (fun h => h rfl)]
  cases (s.sharesTimeout || s.vAReceived)
  · rw [if_neg Bool.false_ne_true, if_neg Bool.false_ne_true]
    cases parseVec s data with
    | none => rfl
    | some v => simp only [rvOk, apply_ite Prod.fst]
  · rfl

theorem rv_noop (s : St O) (o : Nat) (vec : Bytes) (h : s.sharesTimeout = true ∨ s.vAReceived = true) :
    (FvssQ.receiveVerifVector s o vec).1 = s := by
  rw [rv_pair]
  by_cases ho : o ≠ s.dealer
  · rw [if_pos ho]
  · rw [if_neg ho, if_pos (Bool.or_eq_true_iff.2 h)]

theorem rv_other (s : St O) (o : Nat) (ho : o ≠ s.dealer) (data : Bytes) : (FvssQ.receiveVerifVector s o data).1 = s := by
  rw [rv_pair, if_pos ho]

/-- effect of a well-formed share on a state that awaits one -/
def rsOk (s : St O) (x : Nat) : St O :=
  if s.vAReceived then (if !(setX s x).verifyShare then (FvssQ.buildComplaint (setX s x)).1 else setX s x) else setX s x

theorem rs_pair (s : St O) (o : Nat) (d : Bytes) : FvssQ.receiveShare s o d =
    if o ≠ s.dealer then (s, [])
    else if s.sharesTimeout || s.xReceived then (s, [.flag o])
    else match parseShare O d with
      | none => FvssQ.badShare (markX s) o
      | some x =>
        if s.vAReceived then
          (if !(setX s x).verifyShare then FvssQ.buildComplaint (setX s x) else (setX s x, []))
        else (setX s x, []) := by
  unfold FvssQ.receiveShare parseShare setX markX
  by_cases ho : o ≠ s.dealer
  · rw [if_pos ho, if_pos ho]
  rw [if_neg ho, if_neg ho]
  by_cases hst : s.sharesTimeout = true
  · rw [if_pos hst, if_pos (Bool.or_eq_true_iff.2 (Or.inl hst))]
  rw [if_neg hst]
  by_cases hx : s.xReceived = true
  · rw [if_pos hx, if_pos (Bool.or_eq_true_iff.2 (Or.inr hx))]
  have hn : ¬ (s.sharesTimeout || s.xReceived) = true := fun h => (Bool.or_eq_true_iff.1 h).elim hst hx
  rw [if_neg hx, if_neg hn]
  simp only []
  by_cases h1 : d.length = 0 ∨ d.headD 0 ≠ tagShare
  · rw [if_pos h1, if_pos h1]
  rw [if_neg h1, if_neg h1]
  by_cases h2 : (d.drop 1).length ≠ shareSize
  · rw [if_pos h2, if_pos h2]
  rw [if_neg h2, if_neg h2]
  cases O.readScalar (d.drop 1) with
  | none => rfl
  | some x => rfl

/-- Case rule for a private message from `o`; `bad` and `cmpl` are left as calls of `badShare`, `buildComplaint`. -/
theorem rs_cases {P : St O × List Out → Prop} (s : St O) (o : Nat) (d : Bytes)
    (other : o ≠ s.dealer → P (s, []))
    (late : o = s.dealer → (s.sharesTimeout || s.xReceived) = true → P (s, [.flag o]))
    (bad : parseShare O d = none → P (FvssQ.badShare (markX s) o))
    (cmpl : ∀ x, parseShare O d = some x → s.vAReceived = true → (setX s x).verifyShare = false →
      P (FvssQ.buildComplaint (setX s x)))
    (store : ∀ x, parseShare O d = some x → (s.vAReceived = true → (setX s x).verifyShare = true) → P (setX s x, [])) :
    P (FvssQ.receiveShare s o d) := by
  rw [rs_pair]
  by_cases ho : o ≠ s.dealer
  · rw [if_pos ho]; exact other ho
  rw [if_neg ho]
  cases hg : (s.sharesTimeout || s.xReceived)
  case true => rw [if_pos rfl]; exact late (Classical.not_not.1 ho) hg
  rw [if_neg Bool.false_ne_true]
  cases hp : parseShare O d with
  | none => exact bad hp
  | some x =>
    simp only []
    cases hv : s.vAReceived
    case false => rw [if_neg Bool.false_ne_true]; exact store x hp (fun h => by rw [hv] at h; cases h)
    rw [if_pos rfl]
    cases hl : (setX s x).verifyShare
    · exact cmpl x hp hv hl
    · exact store x hp (fun _ => hl)

theorem rs_total (s : St O) (o : Nat) (ho : o = s.dealer) (data : Bytes) :
    (FvssQ.receiveShare s o data).1 =
      if s.sharesTimeout || s.xReceived then s
      else match parseShare O data with
        | none => (FvssQ.buildComplaint (markX s)).1
        | some x => rsOk s x := by
  subst ho
  rw [rs_pair, if_neg (fun h => h rfl)]
  cases (s.sharesTimeout || s.xReceived)
  · rw [if_neg Bool.false_ne_true, if_neg Bool.false_ne_true]
    cases parseShare O data with
    | none => rfl
    | some x => simp only [rsOk, apply_ite Prod.fst]
  · rfl

theorem rs_noop (s : St O) (o : Nat) (sh : Bytes) (h : s.sharesTimeout = true ∨ s.xReceived = true) :
    (FvssQ.receiveShare s o sh).1 = s := by
  rw [rs_pair]
  by_cases ho : o ≠ s.dealer
  · rw [if_pos ho]
  · rw [if_neg ho, if_pos (Bool.or_eq_true_iff.2 h)]

theorem rs_other (s : St O) (o : Nat) (ho : o ≠ s.dealer) (data : Bytes) : (FvssQ.receiveShare s o data).1 = s := by
  rw [rs_pair, if_pos ho]

/-- the complainee named by a complaint payload, if the payload is well formed -/
def parseC (s : St O) (data : Bytes) : Option Nat :=
  if data.length ≠ 1 then none else if (data.headD 0).toNat ≥ s.size then none else some (data.headD 0).toNat

theorem parseC_dealer (s : St O) (hd : s.dealer < 256) (hds : s.dealer < s.size) :
    parseC s [UInt8.ofNat s.dealer] = some s.dealer := by
  have hval : (([UInt8.ofNat s.dealer] : Bytes).headD 0).toNat = s.dealer := by
    show (UInt8.ofNat s.dealer).toNat = s.dealer
    rw [UInt8.toNat_ofNat']; omega
  unfold parseC
  rw [if_neg (by simp), hval, if_neg (by omega)]

/-- effect of a well-formed complaint of `o` against the dealer, at a participant that is not the dealer -/
def rcOk (s : St O) (o : Nat) : St O :=
  match s.find o with
  | none => s.setC o fresh
  | some c =>
    if c.received then s
    else if s.vAReceived ∧ c.answerReceived then
      setDisq (s.setC o (recv c)) (s.checkComplaint o (recv c))
    else s.setC o (recv c)

theorem rc_pair (s : St O) (o : Nat) (d : Bytes) : FvssQ.receiveComplaint s o d =
    if s.complaintsTimeout then (s, [.flag o])
    else match parseC s d with
      | none => if o = s.dealer then (setDisq s true, [.disq o]) else (s, [])
      | some ce =>
        if o = s.dealer ∨ ce ≠ s.dealer then (s, [])
        else match s.find o with
          | none => if s.me = s.dealer then FvssQ.buildAnswer (s.setC o fresh) o else (s.setC o fresh, [])
          | some c =>
            if c.received then (s, [.flag o])
            else if s.vAReceived ∧ c.answerReceived ∧ s.me ≠ s.dealer then
              (setDisq (s.setC o (recv c)) (s.checkComplaint o (recv c)),
                if s.checkComplaint o (recv c) then [.disq s.dealer] else [])
            else (s.setC o (recv c), []) := by
  unfold FvssQ.receiveComplaint parseC setDisq recv fresh
  by_cases hct : s.complaintsTimeout = true
  · rw [if_pos hct, if_pos hct]
  rw [if_neg hct, if_neg hct]
  by_cases h1 : d.length ≠ 1
  · rw [if_pos h1, if_pos h1]
  rw [if_neg h1, if_neg h1]
  simp only []
  by_cases h2 : (d.headD 0).toNat ≥ s.size
  · rw [if_pos h2, if_pos h2]
  rw [if_neg h2, if_neg h2]
  simp only []
  by_cases h3 : o = s.dealer
  · rw [if_pos h3, if_pos (Or.inl h3)]
  rw [if_neg h3]
  by_cases h4 : (d.headD 0).toNat ≠ s.dealer
  · rw [if_pos h4, if_pos (Or.inr h4)]
  have hn : ¬ (o = s.dealer ∨ (d.headD 0).toNat ≠ s.dealer) := fun h => h.elim h3 h4
  rw [if_neg h4, if_neg hn]
  cases s.find o with
  | none => rfl
  | some c =>
    simp only [setC_vAReceived, setC_me, setC_dealer, cc_setC]
    rfl

theorem buildAnswer_setC (s : St O) (o : Nat) (c : Complaint) : FvssQ.buildAnswer (s.setC o c) o =
    (s.setC o { c with answerReceived := true },
      [.bcast (tagAnswer :: UInt8.ofNat o :: O.writeScalar (O.polyEval s.a (o + 1)))]) := by
  unfold FvssQ.buildAnswer
  rw [find_setC_same]
  simp only [setC_setC]
  rfl

/-- Case rule for a complaint of `o`. `same` (no guards) stands for every way of being ignored silently: from the
    dealer, against somebody else, malformed from a non-dealer. `answer` is the dealer's own instance, which answers a
    first complaint at once. -/
theorem rc_cases {P : St O × List Out → Prop} (s : St O) (o : Nat) (d : Bytes)
    (late : s.complaintsTimeout = true → P (s, [.flag o])) (same : P (s, []))
    (bad : o = s.dealer → P (setDisq s true, [.disq o]))
    (answer : s.complaintsTimeout = false → o ≠ s.dealer → s.find o = none → s.me = s.dealer →
      P (FvssQ.buildAnswer (s.setC o fresh) o))
    (first : s.complaintsTimeout = false → o ≠ s.dealer → s.find o = none → s.me ≠ s.dealer → P (s.setC o fresh, []))
    (dup : ∀ c, s.find o = some c → c.received = true → P (s, [.flag o]))
    (check : ∀ c, s.find o = some c → c.received = false → s.vAReceived = true → c.answerReceived = true →
      s.me ≠ s.dealer → P (setDisq (s.setC o (recv c)) (s.checkComplaint o (recv c)),
        if s.checkComplaint o (recv c) then [.disq s.dealer] else []))
    (mark : ∀ c, s.find o = some c → c.received = false → P (s.setC o (recv c), [])) :
    P (FvssQ.receiveComplaint s o d) := by
  rw [rc_pair]
  cases hct : s.complaintsTimeout
  case true => exact late hct
  rw [if_neg Bool.false_ne_true]
  cases parseC s d with
  | none =>
    show P (if o = s.dealer then _ else _)
    by_cases hod : o = s.dealer
    · rw [if_pos hod]; exact bad hod
    · rw [if_neg hod]; exact same
  | some ce =>
    show P (if o = s.dealer ∨ ce ≠ s.dealer then _ else _)
    by_cases hn : o = s.dealer ∨ ce ≠ s.dealer
    · rw [if_pos hn]; exact same
    rw [if_neg hn]
    have hod : o ≠ s.dealer := fun h => hn (Or.inl h)
    cases hf : s.find o with
    | none =>
      show P (if s.me = s.dealer then _ else _)
      by_cases hmd : s.me = s.dealer
      · rw [if_pos hmd]; exact answer hct hod hf hmd
      · rw [if_neg hmd]; exact first hct hod hf hmd
    | some c =>
      show P (if c.received = true then _ else _)
      cases hr : c.received
      case true => exact dup c hf hr
      rw [if_neg Bool.false_ne_true]
      by_cases hc : s.vAReceived = true ∧ c.answerReceived = true ∧ s.me ≠ s.dealer
      · rw [if_pos hc]; exact check c hf hr hc.1 hc.2.1 hc.2.2
      · rw [if_neg hc]; exact mark c hf hr

theorem rc_eq (s : St O) (o : Nat) (data : Bytes) (hme : s.me ≠ s.dealer) (hct : s.complaintsTimeout = false) :
    (FvssQ.receiveComplaint s o data).1 =
      match parseC s data with
      | none => if o = s.dealer then setDisq s true else s
      | some ce => if o = s.dealer then s else if ce ≠ s.dealer then s else rcOk s o := by
  rw [rc_pair, if_neg (by rw [hct]; exact Bool.false_ne_true)]
  cases parseC s data with
  | none => simp only [apply_ite Prod.fst]
  | some ce =>
    simp only []
    by_cases h3 : o = s.dealer
    · rw [if_pos (Or.inl h3), if_pos h3]
    by_cases h4 : ce ≠ s.dealer
    · rw [if_pos (Or.inr h4), if_neg h3, if_pos h4]
    rw [if_neg (fun h => h.elim h3 h4), if_neg h3, if_neg h4]
    unfold rcOk
    cases s.find o with
    | none => simp only [hme, if_false]
    | some c => simp only [apply_ite Prod.fst, hme, ne_eq, not_false_eq_true, and_true]

/-- what a complaint-answer payload carries: `none` malformed; `some (k, none)` an unreadable share -/
def parseA (s : St O) (data : Bytes) : Option (Nat × Option Nat) :=
  if data.length ≠ 1 + shareSize then none
  else if (data.headD 0).toNat ≥ s.size then none
  else some ((data.headD 0).toNat, O.readScalar (data.drop 1))

def early (ans : Nat) : Complaint := { received := false, answerReceived := true, answer := ans }

/-- effect of the dealer's answer for complainer `k` -/
def raOk (s : St O) (k : Nat) (sc : Option Nat) : St O :=
  match s.find k with
  | none =>
    match sc with
    | none => setDisq (s.setC k { received := false, answerReceived := true }) true
    | some ans => s.setC k (early ans)
  | some c =>
    if c.answerReceived then s
    else if c.received then
      match sc with
      | none => setDisq (s.setC k { c with answerReceived := true }) true
      | some ans =>
        let c2 : Complaint := { c with answerReceived := true, answer := ans }
        let s2 := s.setC k c2
        let s3 := if s.vAReceived then setDisq s2 (s.checkComplaint k c2) else s2
        if !s3.disqualified ∧ k = s.me then adoptX s3 ans else s3
    else s.setC k { c with answerReceived := true }

theorem ra_eq (s : St O) (data : Bytes) :
    (FvssQ.receiveComplaintAnswer s s.dealer data).1 =
      match parseA s data with
      | none => setDisq s true
      | some (k, sc) => raOk s k sc := by
  unfold FvssQ.receiveComplaintAnswer parseA
  simp only [ne_eq, not_true_eq_false, if_false]
  by_cases h1 : data.length = 1 + shareSize
  · simp only [h1, not_true_eq_false, if_false]
    by_cases h2 : (data.headD 0).toNat ≥ s.size
    · simp only [h2, if_true]; rfl
    · simp only [h2, if_false]
      unfold raOk
      cases hf : s.find (data.headD 0).toNat with
      | none =>
        simp only []
        cases O.readScalar (data.drop 1) <;> rfl
      | some c =>
        obtain ⟨r, ar, a0⟩ := c
        cases ar
        · cases r
          · simp only [Bool.false_eq_true, if_false]
          · simp only [Bool.false_eq_true, if_false, if_true]
            cases O.readScalar (data.drop 1) with
            | none => rfl
            | some ans =>
              simp only [setC_setC]
              by_cases h5 : s.vAReceived = true
              · have h5' : (s.setC (data.headD 0).toNat { received := true, answerReceived := true, answer := ans }).vAReceived = true := h5
                rw [if_pos h5', if_pos h5]
                rfl
              · have h5' : ¬ (s.setC (data.headD 0).toNat { received := true, answerReceived := true, answer := ans }).vAReceived = true := h5
                rw [if_neg h5', if_neg h5]
                rfl
        · simp only [if_true]
  · simp only [h1, not_false_eq_true, if_true]; rfl

/-- callbacks of the dealer's answer for complainer `k` -/
def raOuts (s : St O) (k : Nat) (sc : Option Nat) : List Out :=
  match s.find k with
  | none => match sc with | none => [.disq s.dealer] | some _ => []
  | some c =>
    if c.answerReceived then [.flag s.dealer]
    else if c.received then
      match sc with
      | none => [.disq s.dealer]
      | some ans =>
        if s.vAReceived ∧ s.checkComplaint k { c with answerReceived := true, answer := ans } then [.disq s.dealer]
        else []
    else []

theorem ra_pair (s : St O) (o : Nat) (d : Bytes) : FvssQ.receiveComplaintAnswer s o d =
    if o ≠ s.dealer then (s, [])
    else match parseA s d with
      | none => (setDisq s true, [.disq s.dealer])
      | some (k, sc) => (raOk s k sc, raOuts s k sc) := by
  by_cases ho : o ≠ s.dealer
  · unfold FvssQ.receiveComplaintAnswer; rw [if_pos ho, if_pos ho]
  rw [if_neg ho]
  have ho' : o = s.dealer := Classical.not_not.1 ho
  subst ho'
  refine Prod.ext ?_ ?_
  · rw [ra_eq]; cases parseA s d with
    | none => rfl
    | some p => rfl
  · unfold FvssQ.receiveComplaintAnswer parseA raOuts
    rw [if_neg ho]
    by_cases h1 : d.length ≠ 1 + shareSize
    · rw [if_pos h1, if_pos h1]
    rw [if_neg h1, if_neg h1]
    simp only []
    by_cases h2 : (d.headD 0).toNat ≥ s.size
    · rw [if_pos h2, if_pos h2]
    rw [if_neg h2, if_neg h2]
    simp only []
    cases s.find (d.headD 0).toNat with
    | none => cases O.readScalar (d.drop 1) <;> rfl
    | some c =>
      obtain ⟨r, ar, a0⟩ := c
      cases ar <;> cases r <;> simp only [Bool.false_eq_true, if_false, if_true]
      cases O.readScalar (d.drop 1) with
      | none => rfl
      | some ans =>
        simp only [setC_setC, setC_vAReceived, cc_setC]
        by_cases h5 : s.vAReceived = true
        · simp only [h5, if_true, true_and]
          by_cases hc : s.checkComplaint (d.headD 0).toNat ⟨true, true, ans⟩ = true
          · simp only [hc, if_true]; rfl
          · simp only [hc]; rfl
        · simp only [h5, false_and]; rfl

/-- what a well-formed complaint of `o` does, from the entry of `o`, `vAReceived` and the check of an answer -/
def rcU (fc : Option Complaint) (vAR : Bool) (chk : Complaint → Bool) : Upd :=
  match fc with
  | none => { entry := some fresh }
  | some c =>
    if c.received then {}
    else if vAR ∧ c.answerReceived then { entry := some (recv c), disq := some (chk (recv c)) }
    else { entry := some (recv c) }

theorem rcOk_upd (s : St O) (o : Nat) :
    rcOk s o = applyUpd s o (rcU (s.find o) s.vAReceived (s.checkComplaint o)) := by
  unfold rcOk rcU applyUpd
  cases s.find o with
  | none => rfl
  | some c =>
    simp only []
    by_cases h1 : c.received = true
    · simp only [h1, if_true]
    · simp only [h1, Bool.false_eq_true, if_false]
      by_cases h2 : s.vAReceived = true ∧ c.answerReceived = true
      · simp only [h2, and_self, if_true]
      · simp only [h2, if_false]

/-- what the dealer's answer for complainer `k` does -/
def raU (fc : Option Complaint) (vAR : Bool) (chk : Complaint → Bool) (sdq isMe : Bool) (sc : Option Nat) : Upd :=
  match fc with
  | none =>
    match sc with
    | none => { entry := some { received := false, answerReceived := true }, disq := some true }
    | some ans => { entry := some (early ans) }
  | some c =>
    if c.answerReceived then {}
    else if c.received then
      match sc with
      | none => { entry := some { c with answerReceived := true }, disq := some true }
      | some ans =>
        let c2 : Complaint := { c with answerReceived := true, answer := ans }
        { entry := some c2, disq := if vAR then some (chk c2) else none,
          x := if !(if vAR then chk c2 else sdq) ∧ isMe then some ans else none }
    else { entry := some { c with answerReceived := true } }

theorem raOk_upd (s : St O) (k : Nat) (sc : Option Nat) :
    raOk s k sc = applyUpd s k (raU (s.find k) s.vAReceived (s.checkComplaint k) s.disqualified (decide (k = s.me)) sc) := by
  unfold raOk raU applyUpd
  cases s.find k with
  | none => cases sc <;> rfl
  | some c =>
    obtain ⟨r, ar, a0⟩ := c
    cases ar
    · cases r
      · simp only [Bool.false_eq_true, if_false]
      · simp only [Bool.false_eq_true, if_false, if_true]
        cases sc with
        | none => rfl
        | some ans =>
          simp only []
          by_cases h3 : s.vAReceived = true
          · simp only [h3, if_true, setDisq_disqualified]
            by_cases h4 : (!(s.checkComplaint k { received := true, answerReceived := true, answer := ans })) = true ∧ k = s.me
            · have h4' : (!(s.checkComplaint k { received := true, answerReceived := true, answer := ans })) = true ∧
                  decide (k = s.me) = true := ⟨h4.1, by simpa using h4.2⟩
              rw [if_pos h4, if_pos h4']
            · have h4' : ¬ ((!(s.checkComplaint k { received := true, answerReceived := true, answer := ans })) = true ∧
                  decide (k = s.me) = true) := fun hh => h4 ⟨hh.1, by simpa using hh.2⟩
              rw [if_neg h4, if_neg h4']
          · simp only [h3, Bool.false_eq_true, if_false, setC_disqualified]
            by_cases h4 : (!s.disqualified) = true ∧ k = s.me
            · have h4' : (!s.disqualified) = true ∧ decide (k = s.me) = true := ⟨h4.1, by simpa using h4.2⟩
              rw [if_pos h4, if_pos h4']
            · have h4' : ¬ ((!s.disqualified) = true ∧ decide (k = s.me) = true) := fun hh => h4 ⟨hh.1, by simpa using hh.2⟩
              rw [if_neg h4, if_neg h4']
    · simp only [if_true]

/-- the descriptor of a complaint of `k` -/
def cmplF (k : Nat) (t : St O) : Upd := rcU (t.find k) t.vAReceived (t.checkComplaint k)

/-- the descriptor of the dealer's answer for `j` -/
def ansF (j : Nat) (sc : Option Nat) (t : St O) : Upd :=
  raU (t.find j) t.vAReceived (t.checkComplaint j) t.disqualified (decide (j = t.me)) sc

theorem rcOk_F (s : St O) (k : Nat) : rcOk s k = applyUpd s k (cmplF k s) := rcOk_upd s k
theorem raOk_F (s : St O) (j : Nat) (sc : Option Nat) : raOk s j sc = applyUpd s j (ansF j sc s) := raOk_upd s j sc

/-- what the vector does after the table was found clean: the node's own complaint if its share does not match -/
def wU (s : St O) (v : O.Vec) : Upd :=
  if s.xReceived ∧ (!(O.checkLog v s.me s.x)) = true then
    bcU (s.find s.me) true (fun c => !(O.checkLog v s.me c.answer))
  else {}

theorem rvOk_upd (s : St O) (v : O.Vec) :
    rvOk s v = if anyBad (setVec s v) then setDisq (setVec s v) true else applyUpd (setVec s v) s.me (wU s v) := by
  unfold rvOk wU
  by_cases hb : anyBad (setVec s v) = true
  · rw [if_pos hb, if_pos hb]
  · rw [if_neg hb, if_neg hb]
    by_cases hx : s.xReceived = true
    · rw [if_pos hx]
      by_cases hl : (!(O.checkLog v s.me s.x)) = true
      · have : (!(setVec s v).verifyShare) = true := hl
        rw [if_pos this, if_pos ⟨hx, hl⟩, bc_upd]
        rfl
      · have : ¬ (!(setVec s v).verifyShare) = true := hl
        rw [if_neg this, if_neg (fun h => hl h.2)]
        rfl
    · rw [if_neg hx, if_neg (fun h => hx h.1)]
      rfl

theorem rv_upd (s : St O) (o : Nat) (ho : o = s.dealer) (data : Bytes) :
    (FvssQ.receiveVerifVector s o data).1 =
      if s.sharesTimeout || s.vAReceived then s
      else match parseVec s data with
        | none => vecBad s
        | some v => if anyBad (setVec s v) then setDisq (setVec s v) true else applyUpd (setVec s v) s.me (wU s v) := by
  rw [rv_total s o ho]
  cases parseVec s data with
  | none => rfl
  | some v => simp only [rvOk_upd]

/-! ### the share as a pre-update followed by the node's own complaint -/

def pre (sh : Bytes) (s : St O) : St O := match parseShare O sh with | none => markX s | some x => setX s x

theorem pre_eq (sh : Bytes) (s : St O) :
    pre sh s = { s with xReceived := true, x := (parseShare O sh).getD s.x } := by
  unfold pre; cases parseShare O sh <;> rfl

def ownF (t : St O) : Upd := bcU (t.find t.me) (t.vAReceived && t.vA.isSome) (t.checkComplaint t.me)

/-- what a well-formed share does once stored: the node's own complaint if the vector is known and does not match -/
def goodF (x : Nat) (t : St O) : Upd := if t.vAReceived ∧ (!(setX t x).verifyShare) = true then ownF t else {}

def shareF (sh : Bytes) (t : St O) : Upd :=
  match parseShare O sh with
  | none => ownF t
  | some x => if t.vAReceived ∧ (!(setX t x).verifyShare) = true then ownF t else {}

theorem rsOk_upd (s : St O) (x : Nat) : rsOk s x = applyUpd (setX s x) s.me (goodF x s) := by
  unfold rsOk goodF
  by_cases hv : s.vAReceived = true
  · rw [if_pos hv]
    by_cases hl : (!(setX s x).verifyShare) = true
    · rw [if_pos hl, if_pos ⟨hv, hl⟩, bc_upd]; rfl
    · rw [if_neg hl, if_neg (fun h => hl h.2)]; rfl
  · rw [if_neg hv, if_neg (fun h => hv h.1)]; rfl

theorem rs_upd (s : St O) (o : Nat) (ho : o = s.dealer) (sh : Bytes) :
    (FvssQ.receiveShare s o sh).1 =
      if s.sharesTimeout || s.xReceived then s else applyUpd (pre sh s) s.me (shareF sh s) := by
  have h : (match parseShare O sh with
      | none => (FvssQ.buildComplaint (markX s)).1
      | some x => rsOk s x) = applyUpd (pre sh s) s.me (shareF sh s) := by
    unfold pre shareF
    cases parseShare O sh with
    | none => exact bc_upd (markX s)
    | some x => exact rsOk_upd s x
  rw [rs_total s o ho, h]

theorem rcU_x (fc : Option Complaint) (b : Bool) (chk : Complaint → Bool) : (rcU fc b chk).x = none := by
  unfold rcU
  cases fc with
  | none => rfl
  | some c =>
    simp only []
    split
    · rfl
    · split <;> rfl

theorem rcU_cases (fc : Option Complaint) (v : Bool) (chk : Complaint → Bool) :
    (∀ c, (rcU fc v chk).entry = some c → (fc = none ∧ c = fresh) ∨ ∃ c0, fc = some c0 ∧ c = recv c0) ∧
    (∀ b, (rcU fc v chk).disq = some b →
      ∃ c0, fc = some c0 ∧ v = true ∧ c0.answerReceived = true ∧ b = chk (recv c0)) := by
  unfold rcU
  cases fc with
  | none =>
    refine ⟨fun c hc => ?_, fun b hb => ?_⟩
    · cases hc; exact Or.inl ⟨rfl, rfl⟩
    · cases hb
  | some c0 =>
    simp only []
    by_cases hr : c0.received = true
    · rw [if_pos hr]
      refine ⟨fun c hc => ?_, fun b hb => ?_⟩
      · cases hc
      · cases hb
    · rw [if_neg hr]
      by_cases hva : v = true ∧ c0.answerReceived = true
      · rw [if_pos hva]
        refine ⟨fun c hc => ?_, fun b hb => ?_⟩
        · cases hc; exact Or.inr ⟨c0, rfl, rfl⟩
        · cases hb; exact ⟨c0, rfl, hva.1, hva.2, rfl⟩
      · rw [if_neg hva]
        refine ⟨fun c hc => ?_, fun b hb => ?_⟩
        · cases hc; exact Or.inr ⟨c0, rfl, rfl⟩
        · cases hb

theorem bcU_cases (fc : Option Complaint) (b : Bool) (chk : Complaint → Bool) :
    (∀ c, (bcU fc b chk).entry = some c → (fc = none ∧ c = fresh) ∨ ∃ c0, fc = some c0 ∧ c = recv c0) ∧
    (∀ a, (bcU fc b chk).x = some a → ∃ c0, fc = some c0 ∧ c0.answerReceived = true ∧ a = c0.answer) := by
  unfold bcU
  cases fc with
  | none =>
    refine ⟨fun c hc => ?_, fun a ha => ?_⟩
    · cases hc; exact Or.inl ⟨rfl, rfl⟩
    · cases ha
  | some c0 =>
    simp only []
    by_cases hr : c0.received = true
    · rw [if_pos hr]
      refine ⟨fun c hc => ?_, fun a ha => ?_⟩
      · cases hc
      · cases ha
    rw [if_neg hr]
    by_cases har : c0.answerReceived = true
    · rw [if_pos har]
      by_cases hb : b = true
      · rw [if_pos hb]
        by_cases hc : chk (recv c0) = true
        · rw [if_pos hc]
          refine ⟨fun c hc => ?_, fun a ha => ?_⟩
          · cases hc; exact Or.inr ⟨c0, rfl, rfl⟩
          · cases ha
        · rw [if_neg hc]
          refine ⟨fun c hc => ?_, fun a ha => ?_⟩
          · cases hc; exact Or.inr ⟨c0, rfl, rfl⟩
          · cases ha; exact ⟨c0, rfl, har, rfl⟩
      · rw [if_neg hb]
        refine ⟨fun c hc => ?_, fun a ha => ?_⟩
        · cases hc; exact Or.inr ⟨c0, rfl, rfl⟩
        · cases ha; exact ⟨c0, rfl, har, rfl⟩
    · rw [if_neg har]
      refine ⟨fun c hc => ?_, fun a ha => ?_⟩
      · cases hc; exact Or.inr ⟨c0, rfl, rfl⟩
      · cases ha

theorem raU_cases (fc : Option Complaint) (v : Bool) (chk : Complaint → Bool) (d m : Bool) (a : Nat) :
    (∀ c, (raU fc v chk d m (some a)).entry = some c → c.answerReceived = true ∧
      ((fc = none ∧ c = early a) ∨ ∃ c0, fc = some c0 ∧ c0.answerReceived = false ∧
        ((c0.received = true ∧ c.answer = a) ∨ (c0.received = false ∧ c.answer = c0.answer)))) ∧
    (∀ b, (raU fc v chk d m (some a)).disq = some b →
      ∃ c0, fc = some c0 ∧ v = true ∧ b = chk { c0 with answerReceived := true, answer := a }) ∧
    ((raU fc v chk d m (some a)).x ≠ none → m = true ∧ ∃ c0, fc = some c0 ∧ c0.received = true) := by
  unfold raU
  cases fc with
  | none =>
    refine ⟨fun c hc => ?_, fun b hb => ?_, fun hx => ?_⟩
    · cases hc; exact ⟨rfl, Or.inl ⟨rfl, rfl⟩⟩
    · cases hb
    · exact absurd rfl hx
  | some c0 =>
    simp only []
    by_cases har : c0.answerReceived = true
    · rw [if_pos har]
      refine ⟨fun c hc => ?_, fun b hb => ?_, fun hx => ?_⟩
      · cases hc
      · cases hb
      · exact absurd rfl hx
    · rw [if_neg har]
      have har' : c0.answerReceived = false := by simpa using har
      by_cases hr : c0.received = true
      · rw [if_pos hr]
        refine ⟨fun c hc => ?_, fun b hb => ?_, fun hx => ?_⟩
        · cases hc; exact ⟨rfl, Or.inr ⟨c0, rfl, har', Or.inl ⟨hr, rfl⟩⟩⟩
        · cases v with
          | true => cases hb; exact ⟨c0, rfl, rfl, rfl⟩
          | false => cases hb
        · cases m with
          | true => exact ⟨rfl, c0, rfl, hr⟩
          | false => exact absurd (if_neg (fun hh => Bool.noConfusion hh.2)) hx
      · rw [if_neg hr]
        refine ⟨fun c hc => ?_, fun b hb => ?_, fun hx => ?_⟩
        · cases hc; exact ⟨rfl, Or.inr ⟨c0, rfl, har', Or.inr ⟨by simpa using hr, rfl⟩⟩⟩
        · cases hb
        · exact absurd rfl hx

theorem raU_entry (fc : Option Complaint) (v : Bool) (chk : Complaint → Bool) (d m : Bool) (sc : Option Nat)
    (c : Complaint) (h : (raU fc v chk d m sc).entry = some c) :
    c.answerReceived = true ∧ c.received = DkgAgree.recvOf fc := by
  unfold raU at h
  cases fc with
  | none => cases sc <;> (simp only [] at h; cases h; exact ⟨rfl, rfl⟩)
  | some c0 =>
    simp only [] at h
    by_cases har : c0.answerReceived = true
    · rw [if_pos har] at h; cases h
    rw [if_neg har] at h
    by_cases hr : c0.received = true
    · rw [if_pos hr] at h
      cases sc <;> (simp only [] at h; cases h; exact ⟨rfl, rfl⟩)
    · rw [if_neg hr] at h; cases h; exact ⟨rfl, rfl⟩

/-! The descriptors agree on states that agree on what they read. -/

theorem cc_congr {a b : St O} (h : a.vA = b.vA) (k : Nat) : a.checkComplaint k = b.checkComplaint k := by
  funext c; unfold St.checkComplaint; rw [h]

theorem cmplF_congr {a b : St O} (k : Nat) (hf : a.find k = b.find k) (hv : a.vAReceived = b.vAReceived)
    (hA : a.vA = b.vA) : cmplF k a = cmplF k b := by
  unfold cmplF; rw [hf, hv, cc_congr hA]

theorem ansF_congr {a b : St O} (j : Nat) (sc : Option Nat) (hf : a.find j = b.find j)
    (hv : a.vAReceived = b.vAReceived) (hA : a.vA = b.vA) (hd : a.disqualified = b.disqualified) (hm : a.me = b.me) :
    ansF j sc a = ansF j sc b := by
  unfold ansF; rw [hf, hv, cc_congr hA, hd, hm]

theorem ownF_congr {a b : St O} (hm : a.me = b.me) (hf : a.find a.me = b.find b.me)
    (hv : a.vAReceived = b.vAReceived) (hA : a.vA = b.vA) : ownF a = ownF b := by
  unfold ownF; rw [hf, hv, hA, cc_congr hA, hm]

theorem shareF_congr {a b : St O} (sh : Bytes) (hm : a.me = b.me) (hf : a.find a.me = b.find b.me)
    (hv : a.vAReceived = b.vAReceived) (hA : a.vA = b.vA) : shareF sh a = shareF sh b := by
  have hvs : ∀ x, (setX a x).verifyShare = (setX b x).verifyShare := fun x => by
    unfold St.verifyShare; rw [setX_vA, setX_vA, setX_me, setX_me, hA, hm]; rfl
  unfold shareF
  rw [ownF_congr hm hf hv hA, hv]
  simp only [hvs]

def SameCfg (s t : St O) : Prop :=
  t.me = s.me ∧ t.dealer = s.dealer ∧ t.size = s.size ∧ t.threshold = s.threshold ∧
  t.sharesTimeout = s.sharesTimeout ∧ t.complaintsTimeout = s.complaintsTimeout ∧ t.running = s.running

theorem SameCfg.me {s t : St O} (h : SameCfg s t) : t.me = s.me := h.1
theorem SameCfg.dealer {s t : St O} (h : SameCfg s t) : t.dealer = s.dealer := h.2.1
theorem SameCfg.size {s t : St O} (h : SameCfg s t) : t.size = s.size := h.2.2.1
theorem SameCfg.threshold {s t : St O} (h : SameCfg s t) : t.threshold = s.threshold := h.2.2.2.1
theorem SameCfg.sharesTimeout {s t : St O} (h : SameCfg s t) : t.sharesTimeout = s.sharesTimeout := h.2.2.2.2.1
theorem SameCfg.complaintsTimeout {s t : St O} (h : SameCfg s t) : t.complaintsTimeout = s.complaintsTimeout :=
  h.2.2.2.2.2.1
theorem SameCfg.running {s t : St O} (h : SameCfg s t) : t.running = s.running := h.2.2.2.2.2.2

theorem SameCfg.rfl' (s : St O) : SameCfg s s := ⟨rfl, rfl, rfl, rfl, rfl, rfl, rfl⟩
theorem SameCfg.trans {s t u : St O} (h1 : SameCfg s t) (h2 : SameCfg t u) : SameCfg s u :=
  ⟨h2.me.trans h1.me, h2.dealer.trans h1.dealer, h2.size.trans h1.size, h2.threshold.trans h1.threshold,
    h2.sharesTimeout.trans h1.sharesTimeout, h2.complaintsTimeout.trans h1.complaintsTimeout,
    h2.running.trans h1.running⟩

theorem applyUpd_cfg (s : St O) (K : Nat) (u : Upd) : SameCfg s (applyUpd s K u) :=
  ⟨applyUpd_me s K u, applyUpd_dealer s K u, applyUpd_size s K u, applyUpd_threshold s K u,
    applyUpd_sharesTimeout s K u, applyUpd_complaintsTimeout s K u, applyUpd_running s K u⟩

theorem bc_cfg (s : St O) : SameCfg s (FvssQ.buildComplaint s).1 := by rw [bc_upd]; exact applyUpd_cfg _ _ _

theorem bc_keeps (s : St O) : (FvssQ.buildComplaint s).1.vA = s.vA ∧ (FvssQ.buildComplaint s).1.vAReceived = s.vAReceived ∧
    (FvssQ.buildComplaint s).1.xReceived = s.xReceived := by
  rw [bc_upd]; exact ⟨applyUpd_vA _ _ _, applyUpd_vAReceived _ _ _, applyUpd_xReceived _ _ _⟩

theorem rs_cfg (s : St O) (o : Nat) (d : Bytes) :
    SameCfg s (FvssQ.receiveShare s o d).1 ∧ (FvssQ.receiveShare s o d).1.vA = s.vA ∧
      (FvssQ.receiveShare s o d).1.vAReceived = s.vAReceived := by
  by_cases ho : o = s.dealer
  · rw [rs_upd s o ho]
    split
    · exact ⟨SameCfg.rfl' s, rfl, rfl⟩
    · refine ⟨(SameCfg.trans ?_ (applyUpd_cfg _ _ _)), ?_, ?_⟩
      · rw [pre_eq]; exact SameCfg.rfl' s
      · rw [applyUpd_vA, pre_eq]
      · rw [applyUpd_vAReceived, pre_eq]
  · rw [rs_other s o ho]; exact ⟨SameCfg.rfl' s, rfl, rfl⟩

theorem rv_cfg (s : St O) (o : Nat) (d : Bytes) :
    SameCfg s (FvssQ.receiveVerifVector s o d).1 ∧ (FvssQ.receiveVerifVector s o d).1.xReceived = s.xReceived := by
  by_cases ho : o = s.dealer
  · rw [rv_upd s o ho]
    split
    · exact ⟨SameCfg.rfl' s, rfl⟩
    · split
      · exact ⟨SameCfg.rfl' s, rfl⟩
      · split
        · exact ⟨SameCfg.rfl' s, rfl⟩
        · exact ⟨applyUpd_cfg (setVec _ _) _ _, applyUpd_xReceived _ _ _⟩
  · rw [rv_other s o ho]; exact ⟨SameCfg.rfl' s, rfl⟩

theorem parseVec_cfg (s t : St O) (h : SameCfg s t) (vec : Bytes) : parseVec t vec = parseVec s vec := by
  unfold parseVec; rw [h.size, h.threshold]

theorem priv_eq (s : St O) (d : Nat) (hd : d = s.dealer) (hme : s.me ≠ s.dealer) (sh : Bytes) :
    (FvssQ.privBody s d sh).1 = if s.disqualified then s else (FvssQ.receiveShare s d sh).1 := by
  subst hd
  unfold FvssQ.privBody
  rw [if_neg hme]
  split <;> rfl

theorem bvec_eq (s : St O) (d : Nat) (hd : d = s.dealer) (hme : s.me ≠ s.dealer) (vec : Bytes) :
    (FvssQ.bcastBody s d (tagVerifVec :: vec)).1 =
      if s.disqualified then s else (FvssQ.receiveVerifVector s d vec).1 := by
  subst hd
  unfold FvssQ.bcastBody
  rw [if_neg hme]
  cases s.disqualified
  · rw [if_neg Bool.false_ne_true, if_neg Bool.false_ne_true]
    simp only []
    have h0 : ¬ (tagVerifVec :: vec).length = 0 := Nat.succ_ne_zero _
    have h1 : (tagVerifVec :: vec).headD 0 = tagVerifVec := rfl
    rw [if_neg h0, if_pos h1]
    rfl
  · rfl

theorem bcmpl_eq (s : St O) (o : Nat) (d : Bytes) :
    FvssQ.bcastBody s o (tagComplaint :: d) =
      if s.me = o then (s, []) else if s.disqualified then (s, []) else FvssQ.receiveComplaint s o d := by
  have h0 : ¬ (tagComplaint :: d).length = 0 := Nat.succ_ne_zero _
  have h1 : ¬ (tagComplaint :: d).headD 0 = tagVerifVec := by show ¬ tagComplaint = tagVerifVec; decide
  have h2 : (tagComplaint :: d).headD 0 = tagComplaint := rfl
  unfold FvssQ.bcastBody
  simp only []
  rw [if_neg h0, if_neg h1, if_pos h2]
  rfl

end Proofs.DkgCommute
