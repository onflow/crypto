import Proofs.DkgRounds

/-! What the Feldman-VSS-Qual handlers do, for every instance (dealer or not) and every sender, read off the equations and
case rules of `Proofs/DkgEquations.lean` and `timeoutBody_cases`: the dispatch of a message as a case rule
(`bcastBody_cases`, `privBody_cases`) and the guard every entry point opens with (`guarded`); which fields no message
handler touches (`sameFlags`); that a `received` mark is never removed and appears only at the own entry or at the
sender's (`Marks`); what may be output (`Emits`: the own complaint exactly when the own entry gets its mark, then
callbacks against the sender or the dealer). `Marks` and `Emits` also cover the timeout and `End` (`settle`). -/

namespace Proofs.DkgCommute
open Model Model.Dkg
variable {O : Ops}

/-- Case rule for the dispatch of a broadcast, used like `buildComplaint_cases`: the untouched state (own or ignored
    message), a malformed message (blamed on its sender; it disqualifies when the sender is the dealer), and what each
    of the three readers returns on the payload, each under what is then known of the sender and the tag. -/
theorem bcastBody_cases {P : St O × List Out → Prop} (s : St O) (o : Nat) (m : Bytes)
    (same : s.me = o ∨ s.disqualified = true → P (s, []))
    (bad : s.me ≠ o → m.length = 0 ∨ (m.headD 0 ≠ tagVerifVec ∧ m.headD 0 ≠ tagComplaint ∧ m.headD 0 ≠ tagAnswer) →
      P ((if o = s.dealer then { s with disqualified := true } else s), [.disq o]))
    (vec : s.me ≠ o → m.headD 0 = tagVerifVec → P (FvssQ.receiveVerifVector s o (m.drop 1)))
    (cmpl : s.me ≠ o → m.length ≠ 0 → m.headD 0 = tagComplaint → P (FvssQ.receiveComplaint s o (m.drop 1)))
    (ans : s.me ≠ o → m.headD 0 = tagAnswer → P (FvssQ.receiveComplaintAnswer s o (m.drop 1))) :
    P (FvssQ.bcastBody s o m) := by
  unfold FvssQ.bcastBody
  by_cases ho : s.me = o
  · rw [if_pos ho]; exact same (Or.inl ho)
  rw [if_neg ho]
  by_cases hd : s.disqualified = true
  · rw [if_pos hd]; exact same (Or.inr hd)
  rw [if_neg hd]
  simp only []
  by_cases hl : m.length = 0
  · rw [if_pos hl]; exact bad ho (Or.inl hl)
  rw [if_neg hl]
  by_cases h1 : m.headD 0 = tagVerifVec
  · rw [if_pos h1]; exact vec ho h1
  rw [if_neg h1]
  by_cases h2 : m.headD 0 = tagComplaint
  · rw [if_pos h2]; exact cmpl ho hl h2
  rw [if_neg h2]
  by_cases h3 : m.headD 0 = tagAnswer
  · rw [if_pos h3]; exact ans ho h3
  · rw [if_neg h3]; exact bad ho (Or.inr ⟨h1, h2, h3⟩)

theorem privBody_cases {P : St O × List Out → Prop} (s : St O) (o : Nat) (m : Bytes)
    (same : s.me = o ∨ s.disqualified = true → P (s, [])) (share : s.me ≠ o → P (FvssQ.receiveShare s o m)) :
    P (FvssQ.privBody s o m) := by
  unfold FvssQ.privBody
  split
  · exact same (Or.inl ‹_›)
  split
  · exact same (Or.inr ‹_›)
  · exact share ‹_›

end Proofs.DkgCommute

namespace Model.Dkg
variable {O : Ops}

/-- the guards every message handler and ForceDisqualify put in front of their body -/
def guarded (s : St O) (orig : Int) (body : St O × List Out) : St O × List Out × Res :=
  if !s.running then (s, [], .invalidTransition)
  else if badIndex s.size orig then (s, [], .invalidInputs)
  else (body.1, body.2, .ok)

theorem guarded_class (s : St O) (orig : Int) (body : St O × List Out) : (guarded s orig body).2.2 =
    (if !s.running then .invalidTransition else if badIndex s.size orig then .invalidInputs else .ok) := by
  unfold guarded; split
  · rfl
  · split <;> rfl

theorem guarded_state (s : St O) (orig : Int) (body : St O × List Out) :
    (guarded s orig body).1 = s ∨ (guarded s orig body).1 = body.1 := by
  unfold guarded; split
  · exact Or.inl rfl
  · split
    · exact Or.inl rfl
    · exact Or.inr rfl

/-- the fields every message handler leaves alone (the timeout sets its own flag: `timeout_pair`) -/
def sameFlags (s s' : St O) : Prop :=
  s'.running = s.running ∧ s'.sharesTimeout = s.sharesTimeout ∧ s'.complaintsTimeout = s.complaintsTimeout ∧
  s'.size = s.size ∧ s'.threshold = s.threshold ∧ s'.me = s.me ∧ s'.dealer = s.dealer

theorem sameFlags.refl (s : St O) : sameFlags s s := ⟨rfl, rfl, rfl, rfl, rfl, rfl, rfl⟩

theorem sameFlags.of_eq {s s' : St O} (h1 : s'.running = s.running) (h2 : s'.sharesTimeout = s.sharesTimeout)
    (h3 : s'.complaintsTimeout = s.complaintsTimeout) (h4 : s'.size = s.size) (h5 : s'.threshold = s.threshold)
    (h6 : s'.me = s.me) (h7 : s'.dealer = s.dealer) : sameFlags s s' := ⟨h1, h2, h3, h4, h5, h6, h7⟩

theorem sameFlags.running {s s' : St O} (h : sameFlags s s') : s'.running = s.running := h.1
theorem sameFlags.sharesTimeout {s s' : St O} (h : sameFlags s s') : s'.sharesTimeout = s.sharesTimeout := h.2.1
theorem sameFlags.complaintsTimeout {s s' : St O} (h : sameFlags s s') : s'.complaintsTimeout = s.complaintsTimeout :=
  h.2.2.1
theorem sameFlags.size {s s' : St O} (h : sameFlags s s') : s'.size = s.size := h.2.2.2.1
theorem sameFlags.threshold {s s' : St O} (h : sameFlags s s') : s'.threshold = s.threshold := h.2.2.2.2.1
theorem sameFlags.me {s s' : St O} (h : sameFlags s s') : s'.me = s.me := h.2.2.2.2.2.1
theorem sameFlags.dealer {s s' : St O} (h : sameFlags s s') : s'.dealer = s.dealer := h.2.2.2.2.2.2

theorem sameFlags.trans {a b c : St O} (h1 : sameFlags a b) (h2 : sameFlags b c) : sameFlags a c :=
  ⟨h2.running.trans h1.running, h2.sharesTimeout.trans h1.sharesTimeout,
    h2.complaintsTimeout.trans h1.complaintsTimeout, h2.size.trans h1.size, h2.threshold.trans h1.threshold,
    h2.me.trans h1.me, h2.dealer.trans h1.dealer⟩

end Model.Dkg

namespace Proofs.DkgCommute
open Model Model.Dkg
variable {O : Ops}

theorem sameFlags_applyUpd (s : St O) (k : Nat) (u : Upd) : sameFlags s (applyUpd s k u) :=
  ⟨applyUpd_running s k u, applyUpd_sharesTimeout s k u, applyUpd_complaintsTimeout s k u, applyUpd_size s k u,
    applyUpd_threshold s k u, applyUpd_me s k u, applyUpd_dealer s k u⟩

end Proofs.DkgCommute

namespace Model.Dkg
open Proofs.DkgCommute
variable {O : Ops}

theorem buildComplaint_flags (s : St O) : sameFlags s (FvssQ.buildComplaint s).1 := by
  rw [bc_upd]; exact sameFlags_applyUpd s _ _

theorem receiveShare_flags (s : St O) (o : Nat) (d : Bytes) : sameFlags s (FvssQ.receiveShare s o d).1 :=
  rs_cases (P := fun r => sameFlags s r.1) s o d (fun _ => sameFlags.refl s) (fun _ _ => sameFlags.refl s)
    (fun _ => buildComplaint_flags (markX s)) (fun x _ _ _ => buildComplaint_flags (setX s x))
    (fun _ _ _ => sameFlags.refl s)

theorem receiveVerifVector_flags (s : St O) (o : Nat) (d : Bytes) :
    sameFlags s (FvssQ.receiveVerifVector s o d).1 :=
  rv_cases (P := fun r => sameFlags s r.1) s o d (fun _ => sameFlags.refl s) (fun _ _ => sameFlags.refl s)
    (fun _ _ => sameFlags.refl s) (fun _ _ _ => sameFlags.refl s)
    (fun v _ _ _ _ => buildComplaint_flags (setVec s v)) (fun _ _ _ _ => sameFlags.refl s)

theorem buildAnswer_flags (s : St O) (k : Nat) : sameFlags s (FvssQ.buildAnswer s k).1 := by
  unfold FvssQ.buildAnswer
  split <;> exact sameFlags.refl s

theorem receiveComplaint_flags (s : St O) (o : Nat) (d : Bytes) :
    sameFlags s (FvssQ.receiveComplaint s o d).1 :=
  rc_cases (P := fun r => sameFlags s r.1) s o d (fun _ => sameFlags.refl s) (sameFlags.refl s)
    (fun _ => sameFlags.refl s) (fun _ _ _ _ => buildAnswer_flags (s.setC o fresh) o) (fun _ _ _ _ => sameFlags.refl s)
    (fun _ _ _ => sameFlags.refl s) (fun _ _ _ _ _ _ => sameFlags.refl s) (fun _ _ _ => sameFlags.refl s)

theorem receiveComplaintAnswer_flags (s : St O) (o : Nat) (d : Bytes) :
    sameFlags s (FvssQ.receiveComplaintAnswer s o d).1 := by
  rw [ra_pair]
  split
  · exact sameFlags.refl s
  split
  · exact sameFlags.refl s
  · rw [raOk_upd]; exact sameFlags_applyUpd s _ _

theorem bcastBody_flags (s : St O) (o : Nat) (m : Bytes) : sameFlags s (FvssQ.bcastBody s o m).1 :=
  bcastBody_cases (P := fun r => sameFlags s r.1) s o m (fun _ => sameFlags.refl s)
    (fun _ _ => by show sameFlags s (if _ then _ else _); split <;> exact sameFlags.refl s)
    (fun _ _ => receiveVerifVector_flags s o _) (fun _ _ _ => receiveComplaint_flags s o _)
    (fun _ _ => receiveComplaintAnswer_flags s o _)

theorem privBody_flags (s : St O) (o : Nat) (m : Bytes) : sameFlags s (FvssQ.privBody s o m).1 :=
  privBody_cases (P := fun r => sameFlags s r.1) s o m (fun _ => sameFlags.refl s) (fun _ => receiveShare_flags s o m)

end Model.Dkg

namespace Proofs.DkgAgree
open Model Model.Dkg Proofs.DkgCommute
variable {O : Ops}

/-- the entry of participant `A` carries the `received` mark: the complaint of `A` has been registered -/
def recvAt (s : St O) (A : Nat) : Bool := recvOf (s.find A)

/-- the participant's own entry carries the mark: its complaint has been built and broadcast -/
def ownRecv (s : St O) : Bool := recvOf (s.find s.me)

def cmplMsg (d : Nat) : Bytes := [tagComplaint, UInt8.ofNat d]

theorem recvAt_congr {s t : St O} (A : Nat) (h : t.complaints = s.complaints) : recvAt t A = recvAt s A := by
  unfold recvAt St.find; rw [h]

theorem ownRecv_of {s t : St O} (hm : t.me = s.me) (h : recvAt t s.me = recvAt s s.me) : ownRecv t = ownRecv s := by
  unfold ownRecv; rw [hm]; exact h

theorem ownRecv_congr {s t : St O} (h1 : t.me = s.me) (h2 : t.complaints = s.complaints) : ownRecv t = ownRecv s :=
  ownRecv_of h1 (recvAt_congr _ h2)

theorem recvAt_applyUpd (s : St O) (j k : Nat) (u : Upd) :
    recvAt (applyUpd s k u) j = if j = k then recvOf (u.entry <|> s.find k) else recvAt s j := by
  unfold recvAt; rw [applyUpd_find, apply_ite recvOf]

/-- every complaint registered in `s` is still registered in `s'`, and outside the entries `K` no other is -/
def Marks (K : Nat → Prop) (s s' : St O) : Prop :=
  ∀ k, (recvAt s k = true → recvAt s' k = true) ∧ (¬ K k → recvAt s' k = recvAt s k)

theorem Marks.keep {K : Nat → Prop} {s s' : St O} (h : Marks K s s') (k : Nat) (hk : recvAt s k = true) :
    recvAt s' k = true := (h k).1 hk

theorem Marks.only {K : Nat → Prop} {s s' : St O} (h : Marks K s s') (k : Nat) (hk : ¬ K k) :
    recvAt s' k = recvAt s k := (h k).2 hk

theorem Marks.of_table {K : Nat → Prop} {s s' : St O} (h : s'.complaints = s.complaints) : Marks K s s' :=
  fun k => ⟨fun hk => (recvAt_congr k h).trans hk, fun _ => recvAt_congr k h⟩

theorem Marks.refl (K : Nat → Prop) (s : St O) : Marks K s s := Marks.of_table rfl

theorem Marks.mono {K K' : Nat → Prop} {s s' : St O} (h : Marks K s s') (hK : ∀ k, K k → K' k) : Marks K' s s' :=
  fun k => ⟨(h k).1, fun hk => (h k).2 (fun h' => hk (hK k h'))⟩

theorem marks_applyUpd (s : St O) (k : Nat) (u : Upd)
    (hu : ∀ c, u.entry = some c → recvAt s k = true → c.received = true) : Marks (· = k) s (applyUpd s k u) := by
  intro j
  rw [recvAt_applyUpd]
  refine ⟨fun hj => ?_, fun hj => by rw [if_neg hj]⟩
  split
  · rename_i e; subst e
    cases he : u.entry with
    | none => exact hj
    | some c => exact hu c he hj
  · exact hj

theorem marks_setC (s : St O) (k : Nat) (c : Complaint) (hc : c.received = true) : Marks (· = k) s (s.setC k c) :=
  marks_applyUpd s k { entry := some c } (fun _ h _ => by cases h; exact hc)

theorem bc_marks (s : St O) : Marks (· = s.me) s (FvssQ.buildComplaint s).1 := by
  rw [bc_upd]
  refine marks_applyUpd s _ _ (fun c hc _ => ?_)
  rcases (bcU_cases _ _ _).1 c hc with ⟨_, rfl⟩ | ⟨_, _, rfl⟩ <;> rfl

theorem rs_marks (s : St O) (o : Nat) (d : Bytes) : Marks (· = s.me) s (FvssQ.receiveShare s o d).1 :=
  rs_cases (P := fun r => Marks (· = s.me) s r.1) s o d (fun _ => Marks.refl _ s) (fun _ _ => Marks.refl _ s)
    (fun _ => bc_marks (markX s)) (fun x _ _ _ => bc_marks (setX s x)) (fun _ _ _ => Marks.refl _ s)

theorem rv_marks (s : St O) (o : Nat) (d : Bytes) : Marks (· = s.me) s (FvssQ.receiveVerifVector s o d).1 :=
  rv_cases (P := fun r => Marks (· = s.me) s r.1) s o d (fun _ => Marks.refl _ s) (fun _ _ => Marks.refl _ s)
    (fun _ _ => Marks.refl _ s) (fun _ _ _ => Marks.refl _ s) (fun v _ _ _ _ => bc_marks (setVec s v))
    (fun _ _ _ _ => Marks.refl _ s)

theorem rc_marks (s : St O) (o : Nat) (d : Bytes) : Marks (· = o) s (FvssQ.receiveComplaint s o d).1 :=
  rc_cases (P := fun r => Marks (· = o) s r.1) s o d (fun _ => Marks.refl _ s) (Marks.refl _ s)
    (fun _ => Marks.refl _ s) (fun _ _ _ _ => by rw [buildAnswer_setC]; exact marks_setC s o _ rfl)
    (fun _ _ _ _ => marks_setC s o _ rfl) (fun _ _ _ => Marks.refl _ s) (fun c _ _ _ _ _ => marks_setC s o (recv c) rfl)
    (fun c _ _ => marks_setC s o (recv c) rfl)

theorem marks_raU (s : St O) (j : Nat) (v : Bool) (chk : Complaint → Bool) (d m : Bool) (sc : Option Nat) :
    Marks (fun _ => False) s (applyUpd s j (raU (s.find j) v chk d m sc)) := by
  have key : ∀ k, recvAt (applyUpd s j (raU (s.find j) v chk d m sc)) k = recvAt s k := by
    intro k
    rw [recvAt_applyUpd]
    split
    · rename_i e; subst e
      cases he : (raU (s.find k) v chk d m sc).entry with
      | none => rfl
      | some c => exact (raU_entry _ _ _ _ _ sc c he).2
    · rfl
  exact fun k => ⟨fun hk => (key k).trans hk, fun _ => key k⟩

theorem ownRecv_applyUpd_other (s : St O) (k : Nat) (u : Upd) (hk : s.me ≠ k) : ownRecv (applyUpd s k u) = ownRecv s :=
  ownRecv_of (applyUpd_me s k u) (by rw [recvAt_applyUpd, if_neg hk])

theorem ownRecv_raOk (s : St O) (j : Nat) (v : Bool) (chk : Complaint → Bool) (d m : Bool) (sc : Option Nat) :
    ownRecv (applyUpd s j (raU (s.find j) v chk d m sc)) = ownRecv s :=
  ownRecv_of (applyUpd_me s j _) ((marks_raU s j v chk d m sc).only _ id)

theorem ra_marks (s : St O) (o : Nat) (d : Bytes) : Marks (fun _ => False) s (FvssQ.receiveComplaintAnswer s o d).1 := by
  rw [ra_pair]
  split
  · exact Marks.refl _ s
  split
  · exact Marks.refl _ s
  · rw [raOk_upd]; exact marks_raU s _ _ _ _ _ _

theorem bcast_marks (s : St O) (o : Nat) (m : Bytes) : Marks (fun k => k = s.me ∨ k = o) s (FvssQ.bcastBody s o m).1 :=
  bcastBody_cases (P := fun r => Marks _ s r.1) s o m (fun _ => Marks.refl _ s)
    (fun _ _ => by
      show Marks _ s (if _ then _ else _)
      split
      · exact Marks.of_table rfl
      · exact Marks.refl _ s)
    (fun _ _ => (rv_marks s o _).mono (fun _ => Or.inl)) (fun _ _ _ => (rc_marks s o _).mono (fun _ => Or.inr))
    (fun _ _ => (ra_marks s o _).mono (fun _ => False.elim))

theorem priv_marks (s : St O) (o : Nat) (m : Bytes) : Marks (· = s.me) s (FvssQ.privBody s o m).1 :=
  privBody_cases (P := fun r => Marks _ s r.1) s o m (fun _ => Marks.refl _ s) (fun _ => rs_marks s o m)

theorem timeout_marks (s : St O) : Marks (· = s.me) s (FvssQ.timeoutBody s).1 :=
  timeoutBody_cases (P := fun r => Marks (· = s.me) s r.1) s (fun _ _ => Marks.of_table rfl)
    (fun _ _ => Marks.of_table rfl) (fun _ _ _ => Marks.of_table rfl) (fun _ _ _ _ => bc_marks (stFlag s))
    (fun _ _ _ _ => Marks.of_table rfl) (fun _ _ _ => Marks.of_table rfl) (fun _ _ _ => Marks.of_table rfl)

/-- the `.disq` after the complaint is the verdict on an early answer, checked when the complaint is built -/
theorem bc_cases (t : St O) :
    (ownRecv t = true ∧ FvssQ.buildComplaint t = (t, [])) ∨
    (ownRecv t = false ∧ ownRecv (FvssQ.buildComplaint t).1 = true ∧
      ((FvssQ.buildComplaint t).2 = cpair t.dealer ∨ (FvssQ.buildComplaint t).2 = cpair t.dealer ++ [.disq t.dealer])) := by
  have hset : ∀ c : Complaint, c.received = true → ownRecv (t.setC t.me c) = true := by
    intro c hc; unfold ownRecv; rw [setC_me, find_setC_same]; exact hc
  have own : ∀ c, t.find t.me = some c → ownRecv t = c.received := fun c hf => by unfold ownRecv; rw [hf]; rfl
  exact buildComplaint_cases (P := fun r => (ownRecv t = true ∧ r = (t, [])) ∨ (ownRecv t = false ∧
      ownRecv r.1 = true ∧ (r.2 = cpair t.dealer ∨ r.2 = cpair t.dealer ++ [.disq t.dealer]))) t
    (fun hf => Or.inr ⟨by unfold ownRecv; rw [hf]; rfl, hset fresh rfl, Or.inl rfl⟩)
    (fun c hf hr => Or.inl ⟨(own c hf).trans hr, rfl⟩)
    (fun c hf hr _ _ => Or.inr ⟨(own c hf).trans hr, hset (recv c) rfl, Or.inr rfl⟩)
    (fun c hf hr _ _ _ _ => Or.inr ⟨(own c hf).trans hr, hset (recv c) rfl, Or.inl rfl⟩)
    (fun c hf hr _ _ => Or.inr ⟨(own c hf).trans hr, hset (recv c) rfl, Or.inl rfl⟩)
    (fun c hf hr _ => Or.inr ⟨(own c hf).trans hr, hset (recv c) rfl, Or.inl rfl⟩)

theorem ownRecv_bc (t : St O) : ownRecv (FvssQ.buildComplaint t).1 = true := by
  rcases bc_cases t with ⟨h, e⟩ | ⟨_, h, _⟩
  · rw [e]; exact h
  · exact h

/-- a callback against `o` or the dealer; on the dealer's own instance, handling a message of somebody else, also a
    broadcast (its answer) -/
def Tail (s : St O) (o : Nat) (x : Out) : Prop :=
  x = .flag o ∨ x = .disq o ∨ x = .disq s.dealer ∨ (s.me = s.dealer ∧ s.me ≠ o ∧ ∃ m, x = .bcast m)

theorem Tail.one {s : St O} {o : Nat} {y : Out} (h : Tail s o y) : ∀ x ∈ [y], Tail s o x :=
  fun _ hx => List.mem_singleton.1 hx ▸ h

/-- `r` is what handling a message of `o` in state `s` may return: the own complaint goes out exactly when the own
    entry gets its `received` mark, and everything after it is a callback against `o` or the dealer. Who can be
    blamed, how often the complaint is broadcast and what the other participants see of this one all follow from it. -/
def Emits (s : St O) (o : Nat) (r : St O × List Out) : Prop :=
  ∃ tl, r.2 = (if ownRecv s = false ∧ ownRecv r.1 = true then cpair s.dealer else []) ++ tl ∧ ∀ x ∈ tl, Tail s o x

theorem Emits.quiet {s t : St O} {o : Nat} {tl : List Out} (h : ownRecv t = ownRecv s) (ht : ∀ x ∈ tl, Tail s o x) :
    Emits s o (t, tl) := by
  refine ⟨tl, ?_, ht⟩
  rw [if_neg (fun hh => by rw [h, hh.1] at hh; exact Bool.noConfusion hh.2)]
  rfl

theorem Emits.same (s : St O) (o : Nat) : Emits s o (s, []) := Emits.quiet rfl (fun _ h => nomatch h)

/-- the complaint built in a state that differs from `s` outside the table, followed by further callbacks -/
theorem Emits.bc {s t : St O} {o : Nat} (h1 : ownRecv t = ownRecv s) (hd : t.dealer = s.dealer) (extra : List Out)
    (he : ∀ x ∈ extra, Tail s o x) :
    Emits s o ((FvssQ.buildComplaint t).1, (FvssQ.buildComplaint t).2 ++ extra) := by
  rcases bc_cases t with ⟨_, e⟩ | ⟨hf, ht, e⟩
  · rw [e]; exact Emits.quiet h1 he
  · rw [h1] at hf
    have hdq : ∀ x ∈ [Out.disq t.dealer] ++ extra, Tail s o x := by
      intro x hx
      rcases List.mem_append.1 hx with hx | hx
      · rw [List.mem_singleton.1 hx, hd]; exact Or.inr (Or.inr (Or.inl rfl))
      · exact he x hx
    rcases e with e | e
    · exact ⟨extra, by rw [e, hd, if_pos ⟨hf, ht⟩], he⟩
    · exact ⟨[.disq t.dealer] ++ extra, by rw [e, hd, if_pos ⟨hf, ht⟩, List.append_assoc], hdq⟩

theorem Emits.bc' {s t : St O} {o : Nat} (h1 : ownRecv t = ownRecv s) (hd : t.dealer = s.dealer) :
    Emits s o (FvssQ.buildComplaint t) := by
  have := Emits.bc (o := o) h1 hd [] (fun _ h => nomatch h)
  rwa [List.append_nil] at this

theorem rs_emits (s : St O) (o : Nat) (d : Bytes) : Emits s o (FvssQ.receiveShare s o d) :=
  rs_cases s o d (fun _ => Emits.same s o) (fun _ _ => Emits.quiet rfl (Tail.one (Or.inl rfl)))
    (fun _ => Emits.bc (ownRecv_congr rfl rfl) rfl _ (Tail.one (Or.inl rfl)))
    (fun _ _ _ _ => Emits.bc' (ownRecv_congr rfl rfl) rfl)
    (fun _ _ _ => Emits.quiet (ownRecv_congr rfl rfl) (fun _ h => nomatch h))

theorem rv_emits (s : St O) (o : Nat) (d : Bytes) : Emits s o (FvssQ.receiveVerifVector s o d) :=
  rv_cases s o d (fun _ => Emits.same s o) (fun _ _ => Emits.quiet rfl (Tail.one (Or.inl rfl)))
    (fun _ _ => Emits.quiet (ownRecv_congr rfl rfl) (Tail.one (Or.inr (Or.inl rfl))))
    (fun _ _ _ => Emits.quiet (ownRecv_congr rfl rfl) (Tail.one (Or.inr (Or.inr (Or.inl rfl)))))
    (fun _ _ _ _ _ => Emits.bc' (ownRecv_congr rfl rfl) rfl)
    (fun _ _ _ _ => Emits.quiet (ownRecv_congr rfl rfl) (fun _ h => nomatch h))

theorem rc_emits (s : St O) (o : Nat) (ho : s.me ≠ o) (d : Bytes) : Emits s o (FvssQ.receiveComplaint s o d) := by
  refine Emits.quiet (t := (FvssQ.receiveComplaint s o d).1)
    (ownRecv_of (receiveComplaint_flags s o d).me ((rc_marks s o d).only _ ho)) ?_
  refine rc_cases (P := fun r => ∀ x ∈ r.2, Tail s o x) s o d (fun _ => Tail.one (Or.inl rfl)) (fun _ h => nomatch h)
    (fun _ => Tail.one (Or.inr (Or.inl rfl))) (fun _ _ _ hmd => ?_) (fun _ _ _ _ _ h => nomatch h)
    (fun _ _ _ => Tail.one (Or.inl rfl)) (fun c _ _ _ _ _ x h => ?_) (fun _ _ _ _ h => nomatch h)
  · rw [buildAnswer_setC]; exact Tail.one (Or.inr (Or.inr (Or.inr ⟨hmd, ho, _, rfl⟩)))
  · split at h
    · exact Tail.one (Or.inr (Or.inr (Or.inl rfl))) x h
    · exact nomatch h

theorem ra_emits (s : St O) (o : Nat) (d : Bytes) : Emits s o (FvssQ.receiveComplaintAnswer s o d) := by
  refine Emits.quiet (t := (FvssQ.receiveComplaintAnswer s o d).1)
    (ownRecv_of (receiveComplaintAnswer_flags s o d).me ((ra_marks s o d).only _ id)) ?_
  show ∀ x ∈ (FvssQ.receiveComplaintAnswer s o d).2, Tail s o x
  rw [ra_pair]
  split
  · exact fun _ h => nomatch h
  rename_i ho
  have ho' : o = s.dealer := Classical.not_not.1 ho
  have hD : ∀ x ∈ [Out.disq s.dealer], Tail s o x := Tail.one (Or.inr (Or.inr (Or.inl rfl)))
  split
  · exact hD
  · intro x h
    unfold raOuts at h
    split at h
    · split at h
      · exact hD x h
      · exact nomatch h
    · split at h
      · rw [List.mem_singleton.1 h, ← ho']; exact Or.inl rfl
      · split at h
        · split at h
          · exact hD x h
          · split at h
            · exact hD x h
            · exact nomatch h
        · exact nomatch h

theorem bcast_emits (s : St O) (o : Nat) (m : Bytes) : Emits s o (FvssQ.bcastBody s o m) :=
  bcastBody_cases s o m (fun _ => Emits.same s o)
    (fun _ _ => Emits.quiet (by split
                                · exact ownRecv_congr rfl rfl
                                · rfl)
      (Tail.one (Or.inr (Or.inl rfl))))
    (fun _ _ => rv_emits s o _) (fun ho _ _ => rc_emits s o ho _) (fun _ _ => ra_emits s o _)

theorem priv_emits (s : St O) (o : Nat) (m : Bytes) : Emits s o (FvssQ.privBody s o m) :=
  privBody_cases s o m (fun _ => Emits.same s o) (fun _ => rs_emits s o m)

/-- a timeout, like `End` (`settle_emits`), acts on the dealer only -/
theorem timeout_emits (s : St O) : Emits s s.dealer (FvssQ.timeoutBody s) := by
  have hD : ∀ x ∈ [Out.disq s.dealer], Tail s s.dealer x := Tail.one (Or.inr (Or.inl rfl))
  have h0 : ∀ x ∈ ([] : List Out), Tail s s.dealer x := fun _ h => nomatch h
  exact timeoutBody_cases (P := Emits s s.dealer) s (fun _ _ => Emits.quiet (ownRecv_congr rfl rfl) h0)
    (fun _ _ => Emits.quiet (ownRecv_congr rfl rfl) h0) (fun _ _ _ => Emits.quiet (ownRecv_congr rfl rfl) hD)
    (fun _ _ _ _ => Emits.bc' (ownRecv_congr rfl rfl) rfl) (fun _ _ _ _ => Emits.quiet (ownRecv_congr rfl rfl) h0)
    (fun _ _ _ => Emits.quiet (ownRecv_congr rfl rfl) hD) (fun _ _ _ => Emits.quiet (ownRecv_congr rfl rfl) h0)

theorem settle_emits (s : St O) : Emits s s.dealer (FvssQ.settle s) := by
  unfold FvssQ.settle
  split
  · exact Emits.quiet (ownRecv_congr rfl rfl) (Tail.one (Or.inr (Or.inl rfl)))
  · exact Emits.same s _

end Proofs.DkgAgree
