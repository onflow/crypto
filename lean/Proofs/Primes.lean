import Proofs.Pratt
import Model.Bls

/-! GENERATED by tools/gen_primes.py from notes/pratt_certificates.json.  Primality of the six moduli of the
library (BLS12-381 `p` and `r`, P-256 and secp256k1 field primes and group orders), each by a Pratt certificate
that the kernel checks (`Proofs/Pratt.lean`). -/

namespace Proofs.Primes

theorem prime_bls_r : Nat.Prime 52435875175126190479447740508185965837690552500527637822603658699938581184513 :=
  prime_of_cert 52435875175126190479447740508185965837690552500527637822603658699938581184513 7 [(2,32),(3,1),(11,1),(19,1),(10177,1),(125527,1),(859267,1),(906349,2),(2508409,1),(2529403,1),(52437899,1),(254760293,2)] [
    (125527, 5, [(2,1),(3,1),(20921,1)]),
    (859267, 2, [(2,1),(3,2),(47737,1)]),
    (906349, 2, [(2,2),(3,1),(47,1),(1607,1)]),
    (2508409, 11, [(2,3),(3,4),(7,2),(79,1)]),
    (2529403, 2, [(2,1),(3,1),(23,1),(18329,1)]),
    (52437899, 2, [(2,1),(43,1),(609743,1)]),
    (609743, 5, [(2,1),(7,1),(97,1),(449,1)]),
    (254760293, 2, [(2,2),(63690073,1)]),
    (63690073, 7, [(2,3),(3,1),(2653753,1)]),
    (2653753, 5, [(2,3),(3,1),(110573,1)]),
    (110573, 3, [(2,2),(7,1),(11,1),(359,1)])] (by decide +kernel)

theorem prime_bls_p : Nat.Prime 4002409555221667393417789825735904156556882819939007885332058136124031650490837864442687629129015664037894272559787 :=
  prime_of_cert 4002409555221667393417789825735904156556882819939007885332058136124031650490837864442687629129015664037894272559787 2 [(2,1),(3,2),(11,1),(23,1),(47,1),(10177,1),(859267,1),(52437899,1),(2584487767265781317813,1),(15778400344354997994418419698270088123916926905054652752758194827714659,1)] [
    (859267, 2, [(2,1),(3,2),(47737,1)]),
    (52437899, 2, [(2,1),(43,1),(609743,1)]),
    (609743, 5, [(2,1),(7,1),(97,1),(449,1)]),
    (2584487767265781317813, 2, [(2,2),(89,1),(7259797099061183477,1)]),
    (7259797099061183477, 2, [(2,2),(941,1),(1928745244171409,1)]),
    (1928745244171409, 3, [(2,4),(13,1),(9272813673901,1)]),
    (9272813673901, 2, [(2,2),(3,1),(5,2),(7,1),(7577,1),(582767,1)]),
    (582767, 5, [(2,1),(67,1),(4349,1)]),
    (15778400344354997994418419698270088123916926905054652752758194827714659, 2, [(2,1),(3,1),(53,1),(475709467,1),(92691255082156974996979,1),(1125266252156850182658904441386709967,1)]),
    (475709467, 2, [(2,1),(3,1),(47,1),(1686913,1)]),
    (1686913, 10, [(2,7),(3,1),(23,1),(191,1)]),
    (92691255082156974996979, 3, [(2,1),(3,1),(31,1),(467,1),(16447,1),(64881703735777,1)]),
    (64881703735777, 5, [(2,5),(3,7),(927093389,1)]),
    (927093389, 3, [(2,2),(13,1),(409,1),(43591,1)]),
    (1125266252156850182658904441386709967, 5, [(2,1),(3373,1),(43670061551,1),(3819663927398918131021,1)]),
    (43670061551, 7, [(2,1),(5,2),(17,1),(51376543,1)]),
    (51376543, 3, [(2,1),(3,1),(7,1),(151,1),(8101,1)]),
    (3819663927398918131021, 6, [(2,2),(3,2),(5,1),(19,1),(113,1),(755057,1),(13090036741,1)]),
    (755057, 3, [(2,4),(41,1),(1151,1)]),
    (13090036741, 10, [(2,2),(3,1),(5,1),(11,1),(47,1),(421987,1)]),
    (421987, 2, [(2,1),(3,1),(53,1),(1327,1)])] (by decide +kernel)

theorem prime_p256_p : Nat.Prime 115792089210356248762697446949407573530086143415290314195533631308867097853951 :=
  prime_of_cert 115792089210356248762697446949407573530086143415290314195533631308867097853951 6 [(2,1),(3,1),(5,2),(17,1),(257,1),(641,1),(1531,1),(65537,1),(490463,1),(6700417,1),(835945042244614951780389953367877943453916927241,1)] [
    (490463, 14, [(2,1),(7,1),(53,1),(661,1)]),
    (6700417, 5, [(2,7),(3,1),(17449,1)]),
    (835945042244614951780389953367877943453916927241, 11, [(2,3),(3,3),(5,1),(774023187263532362759620327192479577272145303,1)]),
    (774023187263532362759620327192479577272145303, 3, [(2,1),(3,2),(2411,1),(34282281433,1),(11290956913871,1),(46076956964474543,1)]),
    (34282281433, 17, [(2,3),(3,1),(7,1),(204061199,1)]),
    (204061199, 11, [(2,1),(11,1),(23,1),(107,1),(3769,1)]),
    (11290956913871, 13, [(2,1),(5,1),(17,1),(66417393611,1)]),
    (66417393611, 6, [(2,1),(5,1),(53,1),(173,1),(197,1),(3677,1)]),
    (46076956964474543, 5, [(2,1),(23,1),(18169,1),(78283,1),(704251,1)]),
    (704251, 2, [(2,1),(3,2),(5,3),(313,1)])] (by decide +kernel)

theorem prime_p256_n : Nat.Prime 115792089210356248762697446949407573529996955224135760342422259061068512044369 :=
  prime_of_cert 115792089210356248762697446949407573529996955224135760342422259061068512044369 7 [(2,4),(3,1),(71,1),(131,1),(373,1),(3407,1),(17449,1),(38189,1),(187019741,1),(622491383,1),(1002328039319,1),(2624747550333869278416773953,1)] [
    (187019741, 2, [(2,2),(5,1),(9350987,1)]),
    (9350987, 2, [(2,1),(17,1),(229,1),(1201,1)]),
    (622491383, 5, [(2,1),(311245691,1)]),
    (311245691, 2, [(2,1),(5,1),(7,1),(17,1),(29,2),(311,1)]),
    (1002328039319, 19, [(2,1),(126241,1),(3969899,1)]),
    (126241, 7, [(2,5),(3,1),(5,1),(263,1)]),
    (3969899, 2, [(2,1),(19,1),(104471,1)]),
    (104471, 11, [(2,1),(5,1),(31,1),(337,1)]),
    (2624747550333869278416773953, 7, [(2,6),(3,2),(1297,1),(16879,1),(208150935158385979,1)]),
    (208150935158385979, 2, [(2,1),(3,1),(11,1),(43,1),(127,1),(3023,1),(191039911,1)]),
    (191039911, 3, [(2,1),(3,1),(5,1),(41,1),(155317,1)]),
    (155317, 5, [(2,2),(3,1),(7,1),(43,2)])] (by decide +kernel)

theorem prime_k256_p : Nat.Prime 115792089237316195423570985008687907853269984665640564039457584007908834671663 :=
  prime_of_cert 115792089237316195423570985008687907853269984665640564039457584007908834671663 3 [(2,1),(3,1),(7,1),(13441,1),(205115282021455665897114700593932402728804164701536103180137503955397371,1)] [
    (205115282021455665897114700593932402728804164701536103180137503955397371, 10, [(2,1),(3,1),(5,1),(29,2),(31,1),(7723,1),(132896956044521568488119,1),(255515944373312847190720520512484175977,1)]),
    (132896956044521568488119, 6, [(2,1),(3,1),(22149492674086928081353,1)]),
    (22149492674086928081353, 5, [(2,3),(3,1),(5323,1),(173378833005251801,1)]),
    (173378833005251801, 6, [(2,3),(5,2),(2621,1),(24809,1),(13331831,1)]),
    (13331831, 13, [(2,1),(5,1),(971,1),(1373,1)]),
    (255515944373312847190720520512484175977, 3, [(2,3),(7,2),(11,1),(1627,1),(2657,1),(4423,1),(41201,1),(96557,1),(7240687,1),(107590001,1)]),
    (7240687, 3, [(2,1),(3,1),(1206781,1)]),
    (1206781, 10, [(2,2),(3,1),(5,1),(20113,1)]),
    (107590001, 3, [(2,4),(5,4),(7,1),(29,1),(53,1)])] (by decide +kernel)

theorem prime_k256_n : Nat.Prime 115792089237316195423570985008687907852837564279074904382605163141518161494337 :=
  prime_of_cert 115792089237316195423570985008687907852837564279074904382605163141518161494337 7 [(2,6),(3,1),(149,1),(631,1),(107361793816595537,1),(174723607534414371449,1),(341948486974166000522343609283189,1)] [
    (107361793816595537, 3, [(2,4),(16699,1),(85831,1),(4681609,1)]),
    (4681609, 23, [(2,3),(3,1),(97,1),(2011,1)]),
    (174723607534414371449, 3, [(2,3),(17,1),(59,1),(4051,1),(120233,1),(44706919,1)]),
    (120233, 3, [(2,3),(7,1),(19,1),(113,1)]),
    (44706919, 6, [(2,1),(3,1),(797,1),(9349,1)]),
    (341948486974166000522343609283189, 2, [(2,2),(3,3),(109,1),(29047611873442575647497758179,1)]),
    (29047611873442575647497758179, 2, [(2,1),(293,1),(305873,1),(545358713,1),(297159362677,1)]),
    (305873, 3, [(2,4),(7,1),(2731,1)]),
    (545358713, 5, [(2,3),(41,1),(59,1),(28181,1)]),
    (297159362677, 2, [(2,2),(3,2),(11,1),(461,1),(1627771,1)]),
    (1627771, 3, [(2,1),(3,1),(5,1),(29,1),(1871,1)])] (by decide +kernel)

instance : Fact (Nat.Prime Model.Bls.r) := ⟨prime_bls_r⟩
instance : Fact (Nat.Prime Model.Bls.p) := ⟨prime_bls_p⟩

end Proofs.Primes
