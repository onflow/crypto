import Proofs.Primes
import Proofs.PointCodec

/-! `E1_read_bytes` / `E1_write_bytes` (compressed 48-byte serialization of E1 points): what is accepted
re-serializes to exactly the input, every curve point round-trips, accepted = canonical encodings of curve points.
Uses that `p` is prime, `p ≡ 3 (mod 4)` and that `-4` is not a cube mod `p` (E1 has no point with `y = 0`). -/

namespace Proofs.E1Codec
open Model Model.Bls Proofs.Primes Proofs.Fp Proofs.PointCodec

theorem p_two : 2 < p := by decide +kernel
theorem p_lt : p < 2 ^ 381 := by decide +kernel
theorem p_bits : p < 2 ^ 800 := by decide +kernel
theorem p_mod_four : p % 4 = 3 := by decide +kernel

/-- `-4` is not a cube modulo `p`: no point of E1 has `y = 0` -/
theorem no_y_zero (x : Nat) : (x * x % p * x + 4) % p ≠ 0 := by
  intro h
  refine not_cube p (c := p - 4) p_bits (by decide +kernel) (by decide +kernel) (by decide +kernel) (x : ZMod p) ?_
  have := congrArg (Nat.cast (R := ZMod p)) h
  rw [ZMod.natCast_mod, Nat.cast_add, Nat.cast_mul, ZMod.natCast_mod, Nat.cast_mul, Nat.cast_zero] at this
  rw [Nat.cast_sub (by decide +kernel), ZMod.natCast_self]
  linear_combination this

theorem readFp_ok (b : Bytes) (x : Nat) (h : readFp b = .ok x) : b.length = 48 ∧ x < p ∧ x = beNat b := by
  unfold readFp at h
  split at h
  · cases h
  split at h
  · cases h
  cases h
  exact ⟨by omega, by omega, rfl⟩

theorem readFp_natBE (x : Nat) (hx : x < p) : readFp (natBE 48 x) = .ok x := by
  have hbe : beNat (natBE 48 x) = x := by
    rw [beNat_natBE]; exact Nat.mod_eq_of_lt (by have := p_lt; omega)
  rw [readFp, if_neg (by simp [natBE_length]), hbe, if_neg (by omega)]

def Valid (P : P1) : Prop := ∀ x y, P = some (x, y) → x < p ∧ y < p ∧ y * y % p = (x * x % p * x + 4) % p

theorem y_ne_zero {x y : Nat} (h : y * y % p = (x * x % p * x + 4) % p) : y ≠ 0 := by
  rintro rfl
  exact no_y_zero x h.symm

theorem spec : Spec 47 readFp (natBE 48) (fun x => Fp.sqrt? p ((x * x % p * x + 4) % p)) (Fp.sign p) (Fp.neg p)
    (· < p) (fun x y => y * y % p = (x * x % p * x + 4) % p) where
  rd_ok c x h := by
    obtain ⟨hl, hx, rfl⟩ := readFp_ok c x h
    exact ⟨hx, hl ▸ natBE_beNat c⟩
  rd_ser := readFp_natBE
  ser_head x hx := natBE_head 47 x (by have := p_lt; omega)
  sqrt_sound x y _ h := by
    have := sqrt_some p h
    rwa [Nat.mod_mod] at this
  sqrt_complete x y _ hy hc := sqrt_of_square p p_mod_four p_bits (y_ne_zero hc) hy hc
  neg_in y _ := lt_neg p y
  neg_curve x y h := (Fp.neg_sq p y).trans h
  neg_neg y hy := Fp.neg_neg p hy
  sign_le := Fp.sign_le p
  sign_neg x y hy hc := Fp.sign_neg p (by decide +kernel) (y_ne_zero hc) hy

theorem readE1_eq (b : Bytes) : readE1 b =
    readPt 47 readFp (fun x => Fp.sqrt? p ((x * x % p * x + 4) % p)) (Fp.sign p) (Fp.neg p) b := by
  unfold readE1 readPt
  cases readFp (clearHeader b) with
  | error e => rfl
  | ok x => dsimp only; cases Fp.sqrt? p ((x * x % p * x + 4) % p) <;> rfl

theorem writeE1_eq (P : P1) : writeE1 P = writePt 47 (natBE 48) (Fp.sign p) P := by
  unfold writeE1 writePt
  rcases P with _ | ⟨x, y⟩
  · rfl
  · dsimp only; cases natBE 48 x <;> rfl

theorem readE1_length (b : Bytes) (P : P1) (h : readE1 b = .ok P) : b.length = 48 :=
  read_length (readE1_eq b ▸ h)

/-- **canonical**: whatever `E1_read_bytes` accepts re-serializes to exactly the input bytes -/
theorem e1_canonical (b : Bytes) (P : P1) (h : readE1 b = .ok P) : writeE1 P = b :=
  (writeE1_eq P).trans (read_ok spec b P (readE1_eq b ▸ h)).1

/-- **round trip**: every reduced affine point of the curve (and the point at infinity) serializes to bytes
    that `E1_read_bytes` maps back to the same point -/
theorem e1_roundtrip (P : P1)
    (hP : ∀ x y, P = some (x, y) → x < p ∧ y < p ∧ y * y % p = (x * x % p * x + 4) % p) :
    readE1 (writeE1 P) = .ok P := by
  rw [writeE1_eq, readE1_eq]
  exact roundtrip spec P hP

theorem e1_accepts_valid (b : Bytes) (P : P1) (h : readE1 b = .ok P) : Valid P :=
  (read_ok spec b P (readE1_eq b ▸ h)).2

/-- **accepted = canonical encodings of curve points**: `E1_read_bytes` returns `P` on `b` exactly when `P` is
    a reduced point of the curve (or infinity) and `b` is its serialization -/
theorem e1_accepts_iff (b : Bytes) (P : P1) : readE1 b = .ok P ↔ (Valid P ∧ writeE1 P = b) := by
  rw [readE1_eq, writeE1_eq]
  exact accepts_iff spec b P

theorem e1_unique_encoding (b b' : Bytes) (P : P1) (h : readE1 b = .ok P) (h' : readE1 b' = .ok P) : b = b' := by
  rw [← e1_canonical b P h, ← e1_canonical b' P h']

end Proofs.E1Codec
