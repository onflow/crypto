import Proofs.Primes
import Proofs.FpLemmas
import Model.Ecdsa

/-! No point of P-256 or secp256k1 has `y = 0` (the curves have no 2-torsion): the cubic `x³ + a·x + b` has no root
modulo `p`.  secp256k1: `-7` is not a cube.  P-256: `gcd(x^p - x, x³ - 3x + b) = 1`, checked by computing `x^p`
modulo the cubic in the kernel and a Bézout identity. -/

namespace Proofs.EcdsaRoots
open Model Model.Ecdsa Proofs.PowMod Proofs.Primes

abbrev Tri := Nat × Nat × Nat     -- c0 + c1·x + c2·x²

/-- product modulo the cubic and modulo `q`: `x³ = -(a x + b)`, `x⁴ = -(a x² + b x)` -/
def mulMod (q a b : Nat) (u v : Tri) : Tri :=
  let c0 := u.1 * v.1
  let c1 := u.1 * v.2.1 + u.2.1 * v.1
  let c2 := u.1 * v.2.2 + u.2.1 * v.2.1 + u.2.2 * v.1
  let c3 := u.2.1 * v.2.2 + u.2.2 * v.2.1
  let c4 := u.2.2 * v.2.2
  -- negative terms as multiples of q - a, q - b (a, b ≤ q)
  ((c0 + (q - b) * (c3 % q)) % q, (c1 + (q - a) * (c3 % q) + (q - b) * (c4 % q)) % q, (c2 + (q - a) * (c4 % q)) % q)

def ev {q : Nat} (u : Tri) (t : ZMod q) : ZMod q := (u.1 : ZMod q) + (u.2.1 : ZMod q) * t + (u.2.2 : ZMod q) * t ^ 2

theorem ev_mulMod (q a b : Nat) (ha : a ≤ q) (hb : b ≤ q) (u v : Tri) (t : ZMod q)
    (ht : t ^ 3 + (a : ZMod q) * t + (b : ZMod q) = 0) :
    ev (mulMod q a b u v) t = ev u t * ev v t := by
  unfold ev mulMod
  simp only [ZMod.natCast_mod, Nat.cast_add, Nat.cast_mul, Nat.cast_sub ha, Nat.cast_sub hb, ZMod.natCast_self, zero_sub]
  -- the two sides differ by `(c3 + c4·t)·(t³ + a·t + b)`, with `c3`, `c4` the coefficients of `x³`, `x⁴` in the product
  linear_combination (-(↑u.2.1 * ↑v.2.2 + ↑u.2.2 * ↑v.2.1 + ↑u.2.2 * ↑v.2.2 * t : ZMod q)) * ht

def powXAux (q a b : Nat) : Nat → Tri → Nat → Tri → Tri
  | 0, _, _, acc => acc
  | fuel+1, base, e, acc =>
    if e = 0 then acc
    else powXAux q a b fuel (mulMod q a b base base) (e / 2) (if e % 2 = 1 then mulMod q a b acc base else acc)

theorem ev_powXAux (q a b : Nat) (ha : a ≤ q) (hb : b ≤ q) (t : ZMod q)
    (ht : t ^ 3 + (a : ZMod q) * t + (b : ZMod q) = 0) :
    ∀ (fuel : Nat) (base : Tri) (e : Nat) (acc : Tri), e < 2 ^ fuel →
      ev (powXAux q a b fuel base e acc) t = ev acc t * ev base t ^ e := by
  intro fuel
  induction fuel with
  | zero =>
    intro base e acc he
    have : e = 0 := by simpa using he
    subst this; simp [powXAux]
  | succ n ih =>
    intro base e acc he
    unfold powXAux
    by_cases h0 : e = 0
    · subst h0; simp
    · rw [if_neg h0]
      have he2 : e / 2 < 2 ^ n := Nat.div_lt_of_lt_mul (by rwa [pow_succ, Nat.mul_comm] at he)
      have hE := Nat.div_add_mod e 2
      rw [ih _ _ _ he2, ev_mulMod q a b ha hb base base t ht]
      by_cases h1 : e % 2 = 1
      · rw [if_pos h1, ev_mulMod q a b ha hb acc base t ht]
        conv_rhs => rw [← hE, h1]
        ring
      · rw [if_neg h1]
        conv_rhs => rw [← hE, (Nat.mod_two_eq_zero_or_one e).resolve_right h1]
        ring

/-- the fuel `300` serves `e < 2^300`; it is used with `e = p256P < 2^256` -/
def powX (q a b e : Nat) : Tri := powXAux q a b 300 (0, 1, 0) e (1, 0, 0)

theorem ev_powX (q a b e : Nat) (ha : a ≤ q) (hb : b ≤ q) (he : e < 2 ^ 300) (t : ZMod q)
    (ht : t ^ 3 + (a : ZMod q) * t + (b : ZMod q) = 0) : ev (powX q a b e) t = t ^ e := by
  unfold powX
  rw [ev_powXAux q a b ha hb t ht 300 _ e _ he]
  simp [ev]

/-- Bézout evaluation: if the coefficients of `U·f + V·(G - x)` are `1, 0, 0, 0, 0` modulo `q`, a root of `f` that is
    also a fixed point of `G` cannot exist -/
theorem no_common_root (q a b u0 u1 v0 v1 v2 g0 g1 g2 : Nat) (hq : 1 < q)
    (h0 : (u0 * b + v0 * g0) % q = 1)
    (h1 : (u0 * a + u1 * b + v0 * (g1 + (q - 1)) + v1 * g0) % q = 0)
    (h2 : (u1 * a + v0 * g2 + v1 * (g1 + (q - 1)) + v2 * g0) % q = 0)
    (h3 : (u0 + v1 * g2 + v2 * (g1 + (q - 1))) % q = 0)
    (h4 : (u1 + v2 * g2) % q = 0)
    (t : ZMod q) (hf : t ^ 3 + (a : ZMod q) * t + (b : ZMod q) = 0)
    (hg : ev ((g0, g1, g2) : Tri) t = t) : False := by
  have hq1 : ((q - 1 : Nat) : ZMod q) = -1 := by
    rw [Nat.cast_sub (le_of_lt hq), ZMod.natCast_self]; simp
  have cast {n r : Nat} (h : n % q = r) : (n : ZMod q) = r := by rw [← ZMod.natCast_mod, h]
  have c0 := cast h0
  have c1 := cast h1
  have c2 := cast h2
  have c3 := cast h3
  have c4 := cast h4
  simp only [Nat.cast_add, Nat.cast_mul, hq1, Nat.cast_one, Nat.cast_zero] at c0 c1 c2 c3 c4
  change (g0 : ZMod q) + g1 * t + g2 * t ^ 2 = t at hg
  have hone : (1 : ZMod q) = 0 := by
    linear_combination ((u0 : ZMod q) + u1 * t) * hf + ((v0 : ZMod q) + v1 * t + v2 * t ^ 2) * hg -
      c0 - t * c1 - t ^ 2 * c2 - t ^ 3 * c3 - t ^ 4 * c4
  have : Fact (1 < q) := ⟨hq⟩
  exact one_ne_zero hone

def p256A : Nat := p256P - 3
def p256B : Nat := 0x5ac635d8aa3a93e7b3ebbd55769886bc651d06b0cc53b0f63bce3c3e27d2604b

instance : Fact (Nat.Prime p256P) := ⟨by
  have : p256P = 115792089210356248762697446949407573530086143415290314195533631308867097853951 := by decide +kernel
  rw [this]; exact prime_p256_p⟩

/-- **P-256 has no point with `y = 0`**: `x³ - 3x + b` has no root modulo `p` -/
theorem p256_no_root (t : ZMod p256P) : t ^ 3 + (p256A : ZMod p256P) * t + (p256B : ZMod p256P) ≠ 0 := by
  intro hf
  have hG : ev (powX p256P p256A p256B p256P) t = t := by
    rw [ev_powX p256P p256A p256B p256P (by decide +kernel) (by decide +kernel) (by decide +kernel) t hf]
    exact ZMod.pow_card t
  have hGv : powX p256P p256A p256B p256P =
      (0x92e088642d3312c097d5943a147b76e7b494e0924f03d682e5350a345a27381d,
       0x1b6b65e0dba268d6bf72f99fba65e1bf30f126868605e87e9d516f57ef5dd84c,
       0x368fbbcd696676a0341535e2f5c2448c25b58fb7587e14be8d657ae5d2ec63f1) := by decide +kernel
  rw [hGv] at hG
  -- `U = u0 + u1·x` and `V = v0 + v1·x + v2·x²` with `U·f + V·(G - x) = 1` were found outside Lean; the `decide`s check
  -- the identity coefficient by coefficient
  exact no_common_root p256P p256A p256B
    0xed31f3b7e1f57596f80c37f95ae2665123a4ae100c3fd1b79e0fd4fa86c24540
    0xe2064682e0b89b67347009d7a074489e0ba61223ca75a16af0484bd16bc9ddc
    0xa969487079f1744798bf0de6fded091b66e9d328eb0645fe5d979d1339b7f47f
    0xa4a08891884100c13323460107a8d28eede4387fa3e6e9bfebec9f6d72d0b5cc
    0x4cde11cf86cb876cd59cf0115813c55af0ecd3cda667d98bb9a347a56aa74a6d
    _ _ _ (by decide +kernel) (by decide +kernel) (by decide +kernel) (by decide +kernel) (by decide +kernel)
    (by decide +kernel) t hf hG

instance : Fact (Nat.Prime k256P) := ⟨by
  have : k256P = 115792089237316195423570985008687907853269984665640564039457584007908834671663 := by decide +kernel
  rw [this]; exact prime_k256_p⟩

/-- **secp256k1 has no point with `y = 0`**: `-7` is not a cube modulo `p`. The coefficients are written as casts of
naturals, the form `Proofs.EcdsaCodec.GoodSpec.noRoot` has for `k256` (`p256A`, `p256B` above serve the same end). -/
theorem k256_no_root (t : ZMod k256P) : t ^ 3 + ((0 : Nat) : ZMod k256P) * t + ((7 : Nat) : ZMod k256P) ≠ 0 := by
  intro hf
  refine Proofs.Fp.not_cube k256P (c := k256P - 7) (by decide +kernel) (by decide +kernel) (by decide +kernel)
    (by decide +kernel) t ?_
  rw [Nat.cast_sub (by decide +kernel), ZMod.natCast_self]
  linear_combination hf

end Proofs.EcdsaRoots
