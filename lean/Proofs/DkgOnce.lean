import Proofs.DkgHandlers

/-! The node broadcasts its own complaint at most once, whatever it receives and in whatever order
(the defect class F9: a second complaint would make every other honest participant flag an honest node). -/

namespace Proofs.DkgCommute
open Model Model.Dkg Proofs.DkgAgree
variable {O : Ops}

/-- number of complaint broadcasts among the outputs of a call -/
def cnt (o : List Out) : Nat :=
  (o.filter (fun x => match x with | .bcast m => m.headD 0 == tagComplaint | _ => false)).length

theorem cnt_append (a b : List Out) : cnt (a ++ b) = cnt a + cnt b := by
  unfold cnt; rw [List.filter_append, List.length_append]

theorem cnt_of_emits {s : St O} {o : Nat} {r : St O × List Out} (hme : s.me ≠ s.dealer) (h : Emits s o r) :
    cnt r.2 = if ownRecv s = false ∧ ownRecv r.1 = true then 1 else 0 := by
  obtain ⟨tl, e, ht⟩ := h
  have htl : cnt tl = 0 := by
    unfold cnt
    rw [List.length_eq_zero_iff, List.filter_eq_nil_iff]
    intro x hx
    rcases ht x hx with rfl | rfl | rfl | ⟨hd, _⟩
    · exact Bool.false_ne_true
    · exact Bool.false_ne_true
    · exact Bool.false_ne_true
    · exact absurd hd hme
  rw [e, cnt_append, htl]
  split <;> rfl

def stepOut (s : St O) : Dl → List Out
  | .bcast o m => (FvssQ.bcastBody s o m).2
  | .priv o m => (FvssQ.privBody s o m).2

/-- an event at the participant: a delivery or a local timeout -/
inductive Ev
  | dl (e : Dl)
  | timeout

def evStep (s : St O) : Ev → St O
  | .dl e => step s e
  | .timeout => tstep s

def evOut (s : St O) : Ev → List Out
  | .dl e => stepOut s e
  | .timeout => (FvssQ.timeoutBody s).2

/-- all callbacks and messages produced along a sequence of events -/
def outputs (s : St O) : List Ev → List Out
  | [] => []
  | ev :: rest => evOut s ev ++ outputs (evStep s ev) rest

theorem ev_emits (s : St O) : ∀ ev : Ev, ∃ o, Emits s o (evStep s ev, evOut s ev)
  | .dl (.bcast o m) => ⟨o, bcast_emits s o m⟩
  | .dl (.priv o m) => ⟨o, priv_emits s o m⟩
  | .timeout => ⟨s.dealer, timeout_emits s⟩

theorem ev_marks (s : St O) : ∀ (ev : Ev) (k : Nat), recvAt s k = true → recvAt (evStep s ev) k = true
  | .dl (.bcast o m) => (bcast_marks s o m).keep
  | .dl (.priv o m) => (priv_marks s o m).keep
  | .timeout => (timeout_marks s).keep

theorem ev_me_dealer (s : St O) : ∀ ev : Ev, (evStep s ev).me = s.me ∧ (evStep s ev).dealer = s.dealer
  | .dl (.bcast o m) => ⟨(bcastBody_flags s o m).me, (bcastBody_flags s o m).dealer⟩
  | .dl (.priv o m) => ⟨(privBody_flags s o m).me, (privBody_flags s o m).dealer⟩
  | .timeout => ⟨tstep_me s, tstep_dealer s⟩

/-- **the participant broadcasts its complaint at most once**, for every sequence of deliveries and timeouts, and
    not at all once its own entry carries the mark -/
theorem complaint_at_most_once (s : St O) (hme : s.me ≠ s.dealer) (evs : List Ev) :
    cnt (outputs s evs) ≤ 1 ∧ (ownRecv s = true → cnt (outputs s evs) = 0) := by
  induction evs generalizing s with
  | nil => exact ⟨Nat.zero_le _, fun _ => rfl⟩
  | cons ev rest ih =>
    obtain ⟨o, he⟩ := ev_emits s ev
    have hc := cnt_of_emits hme he
    have hm : ownRecv s = true → ownRecv (evStep s ev) = true := by
      intro h; unfold ownRecv at h ⊢; rw [(ev_me_dealer s ev).1]; exact ev_marks s ev _ h
    obtain ⟨r1, r2⟩ := ih (evStep s ev) (by rw [(ev_me_dealer s ev).1, (ev_me_dealer s ev).2]; exact hme)
    simp only [outputs, cnt_append]
    rw [hc]
    refine ⟨?_, fun h => ?_⟩
    · split
      · rename_i hh; rw [r2 hh.2]; exact Nat.le_refl 1
      · omega
    · rw [if_neg (fun hh => by rw [h] at hh; exact Bool.noConfusion hh.1), r2 (hm h)]

end Proofs.DkgCommute
