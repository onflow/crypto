import Proofs.FpLemmas
import Proofs.Bytes
import Model.Bls

/-! The compressed point format of BLS12-381 (ZCash): `E1_read_bytes` and `E2_read_bytes` are one reader, and
`E1_write_bytes`, `E2_write_bytes` one writer, over the coordinate field.  What the reader accepts re-serializes to
exactly the input and is a reduced point of the curve, and every such point round-trips, given the facts `Spec`
about the field: its byte codec, the square root of the curve equation, the sign bit. -/

namespace Proofs.PointCodec
open Model Model.Bls Proofs.Fp

theorem header_recombine : ∀ n : Nat, n < 256 → n / 128 = 1 → n / 64 % 2 ≠ 1 →
   (UInt8.ofNat n &&& 0x1F) ||| UInt8.ofNat (0x80 + 0x20 * (n / 32 % 2)) = UInt8.ofNat n := by decide +kernel

theorem header_inf : ∀ n : Nat, n < 256 → n / 128 = 1 → n / 64 % 2 = 1 → n % 64 = 0 → n = 0xC0 := by decide +kernel

theorem header_build : ∀ n : Nat, n < 32 → ∀ s : Nat, s < 2 →
    ((UInt8.ofNat n ||| UInt8.ofNat (0x80 + 0x20 * s)).toNat / 128 = 1 ∧
     (UInt8.ofNat n ||| UInt8.ofNat (0x80 + 0x20 * s)).toNat / 64 % 2 = 0 ∧
     (UInt8.ofNat n ||| UInt8.ofNat (0x80 + 0x20 * s)).toNat / 32 % 2 = s ∧
     ((UInt8.ofNat n ||| UInt8.ofNat (0x80 + 0x20 * s)) &&& 0x1F) = UInt8.ofNat n) := by decide +kernel

theorem all_zero (t : Bytes) (h : ¬ (t.any (· ≠ 0)) = true) : t = zeros t.length := by
  induction t with
  | nil => rfl
  | cons a t ih =>
    simp only [List.any_cons, Bool.or_eq_true, not_or] at h
    have ha : a = 0 := by simpa using h.1
    subst ha
    simp only [zeros, List.length_cons, List.replicate_succ]
    congr 1
    exact ih h.2

/-- `h < 32`: the three header bits of the top byte are free -/
theorem natBE_head (k x : Nat) (hx : x < 32 * 256 ^ k) :
    ∃ h t, natBE (k + 1) x = h :: t ∧ t.length = k ∧ h.toNat < 32 := by
  have hlen := natBE_length (k + 1) x
  cases hn : natBE (k + 1) x with
  | nil => rw [hn] at hlen; cases hlen
  | cons h t =>
    rw [hn, List.length_cons, Nat.add_right_cancel_iff] at hlen
    refine ⟨h, t, rfl, hlen, ?_⟩
    have hbe := beNat_natBE (k + 1) x
    have h256 : 32 * 256 ^ k ≤ 256 ^ (k + 1) := by
      rw [Nat.pow_succ, Nat.mul_comm]; exact Nat.mul_le_mul_left _ (by decide)
    rw [hn, beNat_cons, hlen, Nat.mod_eq_of_lt (hx.trans_le h256)] at hbe
    exact Nat.lt_of_mul_lt_mul_right (a := 256 ^ k) ((Nat.le_add_right _ _).trans_lt (hbe.trans_lt hx))

variable {F : Type}

/-- `E1_read_bytes` / `E2_read_bytes` on `m + 1` bytes: `rd` reads the x coordinate, `sqrtRhs x` is a square root
of the right-hand side of the curve equation at `x` -/
def readPt (m : Nat) (rd : Bytes → Except RdErr F) (sqrtRhs : F → Option F) (sign : F → Nat) (neg : F → F)
    (b : Bytes) : Except RdErr (Option (F × F)) :=
  if b.length ≠ m + 1 then .error .badEncoding
  else
    let b0 := headByte b
    if b0 / 128 ≠ 1 then .error .badEncoding
    else if b0 / 64 % 2 = 1 then
      if b0 % 64 ≠ 0 then .error .badEncoding
      else if (b.drop 1).any (· ≠ 0) then .error .badEncoding
      else .ok none
    else
      let ysign := b0 / 32 % 2
      match rd (clearHeader b) with
      | .error e => .error e
      | .ok x =>
        match sqrtRhs x with
        | none => .error .notOnCurve
        | some y => .ok (some (x, if sign y ≠ ysign then neg y else y))

/-- `E1_write_bytes` / `E2_write_bytes`: `ser` writes the x coordinate -/
def writePt (m : Nat) (ser : F → Bytes) (sign : F → Nat) : Option (F × F) → Bytes
  | none => 0xC0 :: zeros m
  | some (x, y) =>
    match ser x with
    | [] => []
    | h :: t => (h ||| UInt8.ofNat (0x80 + 0x20 * sign y)) :: t

def Valid (InF : F → Prop) (Curve : F → F → Prop) (P : Option (F × F)) : Prop :=
  ∀ x y, P = some (x, y) → InF x ∧ InF y ∧ Curve x y

structure Spec (m : Nat) (rd : Bytes → Except RdErr F) (ser : F → Bytes) (sqrtRhs : F → Option F)
    (sign : F → Nat) (neg : F → F) (InF : F → Prop) (Curve : F → F → Prop) : Prop where
  rd_ok : ∀ c x, rd c = .ok x → InF x ∧ ser x = c
  rd_ser : ∀ x, InF x → rd (ser x) = .ok x
  ser_head : ∀ x, InF x → ∃ h t, ser x = h :: t ∧ t.length = m ∧ h.toNat < 32
  sqrt_sound : ∀ x y, InF x → sqrtRhs x = some y → InF y ∧ Curve x y
  sqrt_complete : ∀ x y, InF x → InF y → Curve x y → ∃ y0, sqrtRhs x = some y0 ∧ (y0 = y ∨ y0 = neg y)
  neg_in : ∀ y, InF y → InF (neg y)
  neg_curve : ∀ x y, Curve x y → Curve x (neg y)
  neg_neg : ∀ y, InF y → neg (neg y) = y
  sign_le : ∀ y, sign y ≤ 1
  /-- needs that no point of the curve has `y = 0` -/
  sign_neg : ∀ x y, InF y → Curve x y → sign (neg y) = 1 - sign y

variable {m : Nat} {rd : Bytes → Except RdErr F} {ser : F → Bytes} {sqrtRhs : F → Option F} {sign : F → Nat}
  {neg : F → F} {InF : F → Prop} {Curve : F → F → Prop}

theorem read_length {b : Bytes} {P : Option (F × F)} (h : readPt m rd sqrtRhs sign neg b = .ok P) :
    b.length = m + 1 := by
  unfold readPt at h
  exact Decidable.not_not.1 (of_ite_ne h nofun).1

theorem read_ok (S : Spec m rd ser sqrtRhs sign neg InF Curve) (b : Bytes) (P : Option (F × F))
    (h : readPt m rd sqrtRhs sign neg b = .ok P) : writePt m ser sign P = b ∧ Valid InF Curve P := by
  unfold readPt at h
  dsimp only at h
  obtain ⟨hl, h⟩ := of_ite_ne h nofun
  obtain ⟨hc, h⟩ := of_ite_ne h nofun
  obtain ⟨h0, t, rfl⟩ : ∃ h0 t, b = h0 :: t := by
    cases b with
    | nil => exact absurd (by decide) hc
    | cons a t => exact ⟨_, _, rfl⟩
  rw [show headByte (h0 :: t) = h0.toNat from rfl] at hc h
  have hlt : h0.toNat < 256 := h0.toNat_lt
  have htl : t.length = m := by simpa using hl
  by_cases hinf : h0.toNat / 64 % 2 = 1
  · rw [if_pos hinf] at h
    obtain ⟨hz, h⟩ := of_ite_ne h nofun
    obtain ⟨ht, h⟩ := of_ite_ne h nofun
    cases h
    have h0c : h0 = 0xC0 := by
      rw [← UInt8.ofNat_toNat (x := h0), header_inf h0.toNat hlt (not_not.1 hc) hinf (not_not.1 hz)]; rfl
    refine ⟨?_, fun x y hxy => nomatch hxy⟩
    rw [writePt, h0c, ← htl, ← all_zero t ht]
  · rw [if_neg hinf] at h
    cases hx : rd (clearHeader (h0 :: t)) with
    | error e => rw [hx] at h; cases h
    | ok x =>
      rw [hx] at h
      dsimp only at h
      obtain ⟨hxin, hser⟩ := S.rd_ok _ _ hx
      cases hs : sqrtRhs x with
      | none => rw [hs] at h; cases h
      | some y =>
        rw [hs] at h
        cases h
        obtain ⟨hyin, hcur⟩ := S.sqrt_sound x y hxin hs
        constructor
        · -- the sign of the returned y is the sign bit of the header
          have hsign := sign_pick sign neg (y := y) (s := h0.toNat / 32 % 2) (mod_two_le _) (S.sign_le y)
            (S.sign_neg x y hyin hcur)
          have hrec := header_recombine h0.toNat hlt (not_not.1 hc) hinf
          rw [UInt8.ofNat_toNat] at hrec
          unfold writePt
          dsimp only
          rw [hser, hsign]
          exact congrArg (· :: t) hrec
        · intro x' y' hxy
          cases hxy
          refine ⟨hxin, ?_, ?_⟩
          · split
            · exact S.neg_in y hyin
            · exact hyin
          · split
            · exact S.neg_curve x y hcur
            · exact hcur

theorem roundtrip (S : Spec m rd ser sqrtRhs sign neg InF Curve) (P : Option (F × F)) (hP : Valid InF Curve P) :
    readPt m rd sqrtRhs sign neg (writePt m ser sign P) = .ok P := by
  cases P with
  | none =>
    have hz : ¬ (List.drop 1 (0xC0 :: zeros m)).any (· ≠ 0) = true := by simp [zeros]
    unfold writePt readPt
    rw [if_neg (by simp [zeros])]
    dsimp only
    rw [show headByte (0xC0 :: zeros m) = 192 from rfl, if_neg (by decide), if_pos (by decide), if_neg (by decide),
      if_neg hz]
  | some xy =>
    obtain ⟨x, y⟩ := xy
    obtain ⟨hx, hy, hcurve⟩ := hP x y rfl
    obtain ⟨h0, t, hht, htl, hh0⟩ := S.ser_head x hx
    have hs := S.sign_le y
    obtain ⟨f1, f2, f3, f4⟩ := header_build h0.toNat hh0 (sign y) (Nat.lt_succ_of_le hs)
    rw [UInt8.ofNat_toNat] at f1 f2 f3 f4
    obtain ⟨y0, hsq, hy0y⟩ := S.sqrt_complete x y hx hy hcurve
    unfold writePt
    dsimp only
    rw [hht]
    dsimp only
    unfold readPt
    rw [if_neg (by simp [htl])]
    dsimp only
    rw [show headByte ((h0 ||| UInt8.ofNat (0x80 + 0x20 * sign y)) :: t) =
      (h0 ||| UInt8.ofNat (0x80 + 0x20 * sign y)).toNat from rfl, if_neg (not_not.2 f1), if_neg (by rw [f2]; decide)]
    have hch : clearHeader ((h0 ||| UInt8.ofNat (0x80 + 0x20 * sign y)) :: t) = ser x := by
      rw [hht]; exact congrArg (· :: t) f4
    rw [hch, S.rd_ser x hx]
    dsimp only
    rw [hsq]
    dsimp only
    rw [f3, pick_eq sign neg hy0y hs (S.sign_neg x y hy hcurve) (S.neg_neg y hy)]

theorem accepts_iff (S : Spec m rd ser sqrtRhs sign neg InF Curve) (b : Bytes) (P : Option (F × F)) :
    readPt m rd sqrtRhs sign neg b = .ok P ↔ (Valid InF Curve P ∧ writePt m ser sign P = b) :=
  ⟨fun h => (read_ok S b P h).symm, fun ⟨hv, hw⟩ => hw ▸ roundtrip S P hv⟩

end Proofs.PointCodec
