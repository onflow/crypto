import Model.Prg
import Proofs.BytesCore

/-! Lemmas about the cipher/PRG model (C14). Core Lean only, for the reason given in `Proofs/BytesCore.lean`. -/

namespace Model.Prg

variable (blk : Nat → Bytes)

theorem blocks_length (hblk : ∀ i, (blk i).length = 64) (s q : Nat) :
    (blocks blk s q).length = 64 * q := by
  induction q generalizing s with
  | zero => simp [blocks]
  | succ q ih => simp [blocks, ih, hblk]; omega

theorem blocks_append (s a b : Nat) :
    blocks blk s (a + b) = blocks blk s a ++ blocks blk (s + a) b := by
  induction a generalizing s with
  | zero => simp [blocks]
  | succ a ih =>
    have : a + 1 + b = (a + b) + 1 := by omega
    rw [this]
    simp only [blocks, List.append_assoc]
    rw [ih]
    congr 3
    omega

theorem blocks_one (s : Nat) : blocks blk s 1 = blk s := by simp [blocks]

/-- keystream prefix of `n` bytes: what RFC 8439 defines for block counters 0, 1, 2, … -/
def keystream (n : Nat) : Bytes := (blocks blk 0 (n / 64 + 1)).take n

theorem blocks_take_mono (hblk : ∀ i, (blk i).length = 64) (a b n : Nat) (h : n ≤ 64 * a) :
    (blocks blk 0 (a + b)).take n = (blocks blk 0 a).take n := by
  rw [blocks_append]
  rw [List.take_append_of_le_length]
  rw [blocks_length blk hblk]; exact h

theorem keystream_eq (hblk : ∀ i, (blk i).length = 64) (n m : Nat) (h : n ≤ 64 * m) :
    keystream blk n = (blocks blk 0 m).take n := by
  unfold keystream
  by_cases hm : n / 64 + 1 ≤ m
  · obtain ⟨d, rfl⟩ := Nat.exists_eq_add_of_le hm
    rw [blocks_take_mono blk hblk (n / 64 + 1) d n (by omega)]
  · have : m ≤ n / 64 + 1 := by omega
    obtain ⟨d, hd⟩ := Nat.exists_eq_add_of_le this
    rw [hd, blocks_take_mono blk hblk m d n h]

theorem keystream_length (hblk : ∀ i, (blk i).length = 64) (n : Nat) :
    (keystream blk n).length = n := by
  unfold keystream
  rw [List.length_take, blocks_length blk hblk]
  omega

theorem keystream_prefix (hblk : ∀ i, (blk i).length = 64) (m n : Nat) (h : m ≤ n) :
    (keystream blk n).take m = keystream blk m := by
  rw [keystream_eq blk hblk n (n / 64 + 1) (by omega), keystream_eq blk hblk m (n / 64 + 1) (by omega)]
  rw [List.take_take]
  congr 1
  omega

/-- The cipher object after `T` bytes of output: `ctr` is the least number of blocks that cover `T` bytes, `buf` what
is left unread of them. -/
def Inv (c : Cipher) (T : Nat) : Prop :=
  T ≤ 64 * c.ctr ∧ 64 * c.ctr < T + 64 ∧ c.buf = (blocks blk 0 c.ctr).drop T

theorem Inv.unique {c c' : Cipher} {T : Nat} (h : Inv blk c T) (h' : Inv blk c' T) : c = c' := by
  obtain ⟨h1, h2, h3⟩ := h
  obtain ⟨h1', h2', h3'⟩ := h'
  have : c.ctr = c'.ctr := by omega
  cases c; cases c'; simp_all

theorem Inv.buf_length (hblk : ∀ i, (blk i).length = 64) {c : Cipher} {T : Nat} (h : Inv blk c T) :
    c.buf.length = 64 * c.ctr - T := by
  rw [h.2.2, List.length_drop, blocks_length blk hblk]

theorem inv_init : Inv blk { ctr := 0, buf := [] } 0 := by
  simp [Inv, blocks]

theorem take_add (hblk : ∀ i, (blk i).length = 64) (c : Cipher) (n : Nat) (h : 0 < n) :
    c.take blk (c.buf.length + n) =
      ({ ctr := c.ctr + (n + 63) / 64, buf := (blocks blk c.ctr ((n + 63) / 64)).drop n },
       c.buf ++ (blocks blk c.ctr ((n + 63) / 64)).take n) := by
  have hdm := Nat.div_add_mod n 64
  have hF := blocks_length blk hblk c.ctr (n / 64)
  rw [Cipher.take, if_neg (by omega)]
  simp only [Nat.add_sub_cancel_left]
  split
  · next hrem =>
    rw [show (n + 63) / 64 = n / 64 by omega, List.take_of_length_le (by omega), List.drop_of_length_le (by omega)]
  · next hrem =>
    rw [show (n + 63) / 64 = n / 64 + 1 by omega, blocks_append, blocks_one, List.take_append, List.drop_append,
      List.take_of_length_le (l := blocks blk c.ctr _) (by omega),
      List.drop_of_length_le (l := blocks blk c.ctr _) (by omega), hF, show n - 64 * (n / 64) = n % 64 by omega]
    simp [Nat.add_assoc]

theorem take_spec (hblk : ∀ i, (blk i).length = 64) (c : Cipher) (T n : Nat) (h : Inv blk c T) :
    (c.take blk n).2 = (keystream blk (T + n)).drop T ∧ Inv blk (c.take blk n).1 (T + n) := by
  have hlen := h.buf_length blk hblk
  obtain ⟨h1, h2, h3⟩ := h
  suffices ∃ k, T + n ≤ 64 * k ∧ 64 * k < T + n + 64 ∧
      c.take blk n = (⟨k, (blocks blk 0 k).drop (T + n)⟩, ((blocks blk 0 k).take (T + n)).drop T) by
    obtain ⟨k, hk1, hk2, e⟩ := this
    rw [e, keystream_eq blk hblk (T + n) k hk1]
    exact ⟨rfl, hk1, hk2, rfl⟩
  by_cases hle : n ≤ c.buf.length
  · refine ⟨c.ctr, by omega, by omega, ?_⟩
    rw [Cipher.take, if_pos hle, h3, List.drop_drop, List.take_drop]
  · obtain ⟨m, rfl⟩ := Nat.exists_eq_add_of_lt (Nat.lt_of_not_le hle)
    have hP := blocks_length blk hblk 0 c.ctr
    refine ⟨c.ctr + (m + 1 + 63) / 64, by omega, by omega, ?_⟩
    rw [Nat.add_assoc, take_add blk hblk c (m + 1) (by omega), blocks_append, Nat.zero_add,
      show T + (c.buf.length + (m + 1)) = (blocks blk 0 c.ctr).length + (m + 1) by omega,
      List.take_length_add_append, List.drop_length_add_append, List.drop_append_of_le_length (by omega), ← h3]

theorem inv_setCounter (hblk : ∀ i, (blk i).length = 64) (T : Nat) :
    Inv blk (Cipher.take blk { ctr := T / 64, buf := [] } (T % 64)).1 T := by
  have h0 : Inv blk { ctr := T / 64, buf := [] } (64 * (T / 64)) :=
    ⟨Nat.le_refl _, Nat.lt_add_of_pos_right (by decide),
      (List.drop_of_length_le (by rw [blocks_length blk hblk]; exact Nat.le_refl _)).symm⟩
  have := (take_spec blk hblk _ _ (T % 64) h0).2
  rwa [Nat.div_add_mod] at this

theorem new?_eq_some_iff (seed cust : Bytes) (s : State) :
    new? seed cust = some s ↔ seed.length = 32 ∧ cust.length ≤ 12 ∧
      s = { seed := seed, cust := cust ++ zeros (12 - cust.length), counter := 0,
            cipher := { ctr := 0, buf := [] }, ubuf := zeros 8 } := by
  unfold new? seedLen custMaxLen
  by_cases h1 : seed.length = 32 <;> by_cases h2 : cust.length ≤ 12 <;> simp [h1, h2, eq_comm, Nat.not_lt.2, Nat.lt_of_not_le]

theorem store_fields (s : State) (h1 : s.seed.length = 32) (h2 : s.cust.length = 12) :
    (store s).take 32 = s.seed ∧ ((store s).drop 32).take 12 = s.cust ∧ (store s).drop 44 = natLE 8 s.counter := by
  unfold store
  rw [List.append_assoc, show 44 = 32 + 12 by rfl, ← List.drop_drop, ← h1, List.drop_left, List.take_left, ← h2,
    List.drop_left, List.take_left]
  exact ⟨rfl, rfl, rfl⟩

theorem restore?_eq_some_iff (blkOf : Bytes → Bytes → Nat → Bytes) (st : Bytes) (s : State) :
    restore? blkOf st = some s ↔ st.length = 52 ∧
      s = { seed := st.take 32, cust := (st.drop 32).take 12, counter := leNat (st.drop 44),
            cipher := (Cipher.take (blkOf (st.take 32) ((st.drop 32).take 12))
              { ctr := leNat (st.drop 44) / 64 % 2 ^ 32, buf := [] } (leNat (st.drop 44) % 64)).1,
            ubuf := zeros 8 } := by
  unfold restore? Cipher.xorKeyStream
  split
  · simp; omega
  · simp [zeros, eq_comm]; omega

end Model.Prg
