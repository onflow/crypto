import Proofs.E1Codec
import Mathlib.NumberTheory.LegendreSymbol.Basic

/-! `E2_read_bytes` / `E2_write_bytes` (compressed 96-byte serialization of E2 points over F_p²): accepted = canonical
encodings of reduced points of the curve (`e2_accepts_iff`), and every such point round-trips.  Uses `p ≡ 3 (mod 4)`
(so `-1` is a non-residue and the norm form `c0² + c1²` is anisotropic) and that 32 is not a cube mod `p`
(E2 has no point with `y = 0`: norms would give `N(x)³ = N(-4(1+u)) = 32`). -/

namespace Proofs.E2Codec
open Model Model.Bls Proofs.PowMod Proofs.Primes Proofs.Fp Proofs.PointCodec Proofs.E1Codec

theorem p_odd : p % 2 = 1 := by decide +kernel

def norm (a : Fp2.El) : ZMod p := (a.1 : ZMod p) ^ 2 + (a.2 : ZMod p) ^ 2

theorem norm_mul (a b : Fp2.El) : norm (Fp2.mul p a b) = norm a * norm b := by
  unfold norm Fp2.mul
  simp only [c_sub, c_add, c_mul]
  ring

theorem neg_one_not_sq (z : ZMod p) : z ^ 2 ≠ -1 :=
  fun h => ZMod.mod_four_ne_three_of_sq_eq_neg_one h p_mod_four

theorem neg_sq_not_sq (z : ZMod p) (hz : z ≠ 0) (w : ZMod p) : w ^ 2 ≠ -z ^ 2 := fun h =>
  neg_one_not_sq (w * z⁻¹) (by rw [mul_pow, h, neg_mul, ← mul_pow, mul_inv_cancel₀ hz, one_pow])

theorem sum_sq_zero (u v : ZMod p) (h : u ^ 2 + v ^ 2 = 0) : u = 0 ∧ v = 0 := by
  have hv : v = 0 := by_contra fun hv => neg_sq_not_sq v hv u (eq_neg_of_add_eq_zero_left h)
  rw [hv, zero_pow two_ne_zero, add_zero] at h
  exact ⟨sq_eq_zero_iff.1 h, hv⟩

theorem sqrt_lt (a y : Nat) (h : Fp.sqrt? p a = some y) : y < p := (sqrt_some p h).1

theorem check_iff {q : Nat} {b x y : Fp2.El} :
    (if Fp2.mul q x x == b then some x else none) = some y ↔ y = x ∧ Fp2.mul q y y = b := by
  split
  · next h => exact ⟨fun e => Option.some.inj e ▸ ⟨rfl, eq_of_beq h⟩, fun e => congrArg some e.1.symm⟩
  · next h => exact ⟨nofun, fun e => absurd (e.1 ▸ beq_iff_eq.2 e.2) h⟩

/-- what `Fp2.sqrt?` returns: the candidate built from the F_p roots of `a.1` or `-a.1` (when the imaginary part of `a` is zero), or of
one of `(a.1 ± n) / 2` with `n` a root of the norm, provided it passes the final check -/
theorem sqrt2_eq_some {q : Nat} {a y : Fp2.El} :
    Fp2.sqrt? q a = some y ↔
      (if a.2 % q = 0 then
        (∃ x, Fp.sqrt? q a.1 = some x ∧ y = (x, 0)) ∨
        (Fp.sqrt? q a.1 = none ∧ ∃ x, Fp.sqrt? q (Fp.neg q a.1) = some x ∧ y = (0, x))
      else ∃ n, Fp.sqrt? q (Fp.add q (Fp.mul q a.1 a.1) (Fp.mul q a.2 a.2)) = some n ∧
        ∃ x, y = (x, Fp.mul q a.2 (Fp.inv q (Fp.mul q 2 x))) ∧
        ((Fp.sqrt? q (Fp.mul q (Fp.add q a.1 n) (Fp.inv q 2)) = some x ∧ x ≠ 0) ∨
         ((Fp.sqrt? q (Fp.mul q (Fp.add q a.1 n) (Fp.inv q 2)) = none ∨
           Fp.sqrt? q (Fp.mul q (Fp.add q a.1 n) (Fp.inv q 2)) = some 0) ∧
          Fp.sqrt? q (Fp.mul q (Fp.sub q a.1 n) (Fp.inv q 2)) = some x))) ∧
      Fp2.mul q y y = (a.1 % q, a.2 % q) := by
  unfold Fp2.sqrt?
  dsimp only
  by_cases h0 : a.2 % q = 0
  · rw [if_pos h0, if_pos h0]
    cases Fp.sqrt? q a.1 with
    | some x => rw [check_iff]; refine and_congr_left' ?_; simp
    | none =>
      cases Fp.sqrt? q (Fp.neg q a.1) with
      | some x => rw [check_iff]; refine and_congr_left' ?_; simp
      | none => exact ⟨nofun, fun ⟨h, _⟩ => h.elim (fun ⟨_, hx, _⟩ => nomatch hx) fun ⟨_, _, hx, _⟩ => nomatch hx⟩
  · rw [if_neg h0, if_neg h0]
    cases Fp.sqrt? q (Fp.add q (Fp.mul q a.1 a.1) (Fp.mul q a.2 a.2)) with
    | none => exact ⟨nofun, fun ⟨⟨_, hn, _⟩, _⟩ => nomatch hn⟩
    | some n =>
      simp only [Option.some.injEq, exists_eq_left']
      generalize Fp.sqrt? q (Fp.mul q (Fp.add q a.1 n) (Fp.inv q 2)) = r1
      generalize Fp.sqrt? q (Fp.mul q (Fp.sub q a.1 n) (Fp.inv q 2)) = r2
      rcases r1 with _ | _ | x1
      · rcases r2 with _ | x2
        · simp
        · dsimp only; rw [check_iff]; refine and_congr_left' ?_; simp
      · rcases r2 with _ | x2
        · simp
        · dsimp only; rw [if_pos rfl]; dsimp only; rw [check_iff]; refine and_congr_left' ?_; simp [eq_comm]
      · dsimp only; rw [if_neg x1.succ_ne_zero]; dsimp only; rw [check_iff]; refine and_congr_left' ?_; simp

theorem sqrt2_some (q : Nat) [Fact q.Prime] (a y : Fp2.El) (h : Fp2.sqrt? q a = some y) :
    y.1 < q ∧ y.2 < q ∧ Fp2.mul q y y = (a.1 % q, a.2 % q) := by
  obtain ⟨hc, hm⟩ := sqrt2_eq_some.1 h
  have hq : 0 < q := (Fact.out : q.Prime).pos
  split at hc
  · rcases hc with ⟨x, hx, rfl⟩ | ⟨-, x, hx, rfl⟩
    · exact ⟨(sqrt_some q hx).1, hq, hm⟩
    · exact ⟨hq, (sqrt_some q hx).1, hm⟩
  · obtain ⟨n, -, x, rfl, hx⟩ := hc
    refine ⟨?_, lt_mul q _ _, hm⟩
    rcases hx with ⟨hx, -⟩ | ⟨-, hx⟩ <;> exact (sqrt_some q hx).1

theorem readFp2_ok (b : Bytes) (x : Fp2.El) (h : readFp2 b = .ok x) :
    b.length = 96 ∧ x.1 < p ∧ x.2 < p ∧ x.1 = beNat (b.take 48) ∧ x.2 = beNat (b.drop 48) := by
  unfold readFp2 at h
  obtain ⟨hl, h⟩ := of_ite_ne h nofun
  cases h1 : readFp (b.take 48) with
  | error e => rw [h1] at h; cases h
  | ok c0 =>
    rw [h1] at h
    dsimp only at h
    cases h2 : readFp (b.drop 48) with
    | error e => rw [h2] at h; cases h
    | ok c1 =>
      rw [h2] at h
      dsimp only at h
      have h := Except.ok.inj h
      obtain ⟨_, a1, a2⟩ := readFp_ok _ _ h1
      obtain ⟨_, b1, b2⟩ := readFp_ok _ _ h2
      have e1 : x.1 = c0 := congrArg Prod.fst h.symm
      have e2 : x.2 = c1 := congrArg Prod.snd h.symm
      exact ⟨not_not.1 hl, e1 ▸ a1, e2 ▸ b1, e1 ▸ a2, e2 ▸ b2⟩

theorem thirty_two_not_cube (n : ZMod p) : n ^ 3 ≠ 32 :=
  not_cube p (c := 32) p_bits (by decide +kernel) (by decide +kernel) (by decide +kernel) n

/-- the right-hand side of the curve equation of E2, `x³ + 4(1+u)`, as the code computes it -/
def rhs (x : Fp2.El) : Fp2.El := Fp2.add p (Fp2.mul p (Fp2.mul p x x) x) (4, 4)

/-- E2 has no point with `y = 0`: `x³ + 4(1+u) ≠ 0` in F_p² (norms: `N(x)³ = 32` is impossible) -/
theorem no_y_zero2 (x : Fp2.El) : rhs x ≠ (0, 0) := by
  intro h
  set X := Fp2.mul p (Fp2.mul p x x) x with hX
  have hn : norm X = norm x ^ 3 := by rw [hX, norm_mul, norm_mul]; ring
  have h1 : Fp.add p X.1 4 = 0 := congrArg Prod.fst h
  have h2 : Fp.add p X.2 4 = 0 := congrArg Prod.snd h
  have c1 : (X.1 : ZMod p) + (4 : ℕ) = (0 : ℕ) := by rw [← c_add, h1]
  have c2 : (X.2 : ZMod p) + (4 : ℕ) = (0 : ℕ) := by rw [← c_add, h2]
  apply thirty_two_not_cube (norm x)
  rw [← hn, norm, eq_neg_of_add_eq_zero_left (c1.trans Nat.cast_zero),
    eq_neg_of_add_eq_zero_left (c2.trans Nat.cast_zero)]
  norm_num

theorem sign_le2 (y : Fp2.El) : Fp2.sign p y ≤ 1 := by
  unfold Fp2.sign; split <;> exact sign_le p _

theorem fneg_zero : Fp.neg p 0 = 0 := by decide +kernel

theorem sign_neg2 (y : Fp2.El) (h1 : y.1 < p) (h2 : y.2 < p) (hne : ¬ (y.1 = 0 ∧ y.2 = 0)) :
    Fp2.sign p (Fp2.neg p y) = 1 - Fp2.sign p y := by
  unfold Fp2.sign Fp2.neg
  dsimp only
  by_cases hz : y.2 = 0
  · rw [hz, fneg_zero, if_pos rfl, if_pos rfl]
    exact sign_neg p p_odd (fun h => hne ⟨h, hz⟩) h1
  · rw [if_neg (Fp.neg_ne_zero p hz h2), if_neg hz]
    exact sign_neg p p_odd hz h2

theorem mul_zero_zero : Fp2.mul p (0, 0) (0, 0) = (0, 0) := by decide +kernel

theorem el_ext (a b : Fp2.El) (ha1 : a.1 < p) (ha2 : a.2 < p) (hb1 : b.1 < p) (hb2 : b.2 < p)
    (h1 : (a.1 : ZMod p) = b.1) (h2 : (a.2 : ZMod p) = b.2) : a = b :=
  Prod.ext ((cast_inj p ha1 hb1).1 h1) ((cast_inj p ha2 hb2).1 h2)

theorem mul2_lt (a b : Fp2.El) : (Fp2.mul p a b).1 < p ∧ (Fp2.mul p a b).2 < p := ⟨lt_sub p _ _, lt_add p _ _⟩

theorem mul2_cast (a b : Fp2.El) :
    ((Fp2.mul p a b).1 : ZMod p) = (a.1 : ZMod p) * b.1 - (a.2 : ZMod p) * b.2 ∧
    ((Fp2.mul p a b).2 : ZMod p) = (a.1 : ZMod p) * b.2 + (a.2 : ZMod p) * b.1 :=
  ⟨by rw [Fp2.mul, c_sub, c_mul, c_mul], by rw [Fp2.mul, c_add, c_mul, c_mul]⟩

theorem neg2_cast (a : Fp2.El) :
    ((Fp2.neg p a).1 : ZMod p) = -(a.1 : ZMod p) ∧ ((Fp2.neg p a).2 : ZMod p) = -(a.2 : ZMod p) :=
  ⟨c_neg p _, c_neg p _⟩

theorem neg2_lt (a : Fp2.El) : (Fp2.neg p a).1 < p ∧ (Fp2.neg p a).2 < p := ⟨lt_neg p _, lt_neg p _⟩

theorem neg2_sq (y : Fp2.El) : Fp2.mul p (Fp2.neg p y) (Fp2.neg p y) = Fp2.mul p y y := by
  apply el_ext _ _ (mul2_lt _ _).1 (mul2_lt _ _).2 (mul2_lt _ _).1 (mul2_lt _ _).2
  · rw [(mul2_cast _ _).1, (mul2_cast _ _).1, (neg2_cast _).1, (neg2_cast _).2]; ring
  · rw [(mul2_cast _ _).2, (mul2_cast _ _).2, (neg2_cast _).1, (neg2_cast _).2]; ring

theorem rhs_lt (x : Fp2.El) : (rhs x).1 < p ∧ (rhs x).2 < p := ⟨lt_add p _ _, lt_add p _ _⟩

def Valid (P : P2) : Prop :=
  ∀ x y, P = some (x, y) → x.1 < p ∧ x.2 < p ∧ y.1 < p ∧ y.2 < p ∧ Fp2.mul p y y = rhs x

theorem two_cast : ((2 : Nat) : ZMod p) = 2 := by norm_cast

/-- a candidate that is `±y` passes the final check of `Fp2.sqrt?` on `y²` -/
theorem sq_of_pm {c y : Fp2.El} (h : c = y ∨ c = Fp2.neg p y) :
    Fp2.mul p c c = ((Fp2.mul p y y).1 % p, (Fp2.mul p y y).2 % p) := by
  rw [Nat.mod_eq_of_lt (mul2_lt y y).1, Nat.mod_eq_of_lt (mul2_lt y y).2]
  rcases h with rfl | rfl
  · rfl
  · exact neg2_sq y

theorem pm_of_cast {c y : Fp2.El} (hc1 : c.1 < p) (hc2 : c.2 < p) (hy1 : y.1 < p) (hy2 : y.2 < p)
    (h : ((c.1 : ZMod p) = y.1 ∧ (c.2 : ZMod p) = y.2) ∨ ((c.1 : ZMod p) = -y.1 ∧ (c.2 : ZMod p) = -y.2)) :
    c = y ∨ c = Fp2.neg p y :=
  h.imp (fun h => el_ext _ _ hc1 hc2 hy1 hy2 h.1 h.2) fun h =>
    el_ext _ _ hc1 hc2 (neg2_lt y).1 (neg2_lt y).2 (by rw [(neg2_cast y).1, h.1]) (by rw [(neg2_cast y).2, h.2])

/-- completeness of `Fp2.sqrt?`: on `a = y²` with `y = Y0 + Y1 u` the candidate is `±y`.  If `a.2 = 2 Y0 Y1 = 0`, `a.1`
is `Y0²` or the non-square `-Y1²`; otherwise the norm root `n` is `±(Y0² + Y1²)`, so `(a.1 + n) / 2` is `Y0²` or the
non-square `-Y1²`, the real part found is `x = ±Y0`, and `a.2 / (2 x) = ±Y1`. -/
theorem sqrt2_of_square (y : Fp2.El) (hy1 : y.1 < p) (hy2 : y.2 < p) (hne : ¬ (y.1 = 0 ∧ y.2 = 0)) :
    ∃ y0, Fp2.sqrt? p (Fp2.mul p y y) = some y0 ∧ (y0 = y ∨ y0 = Fp2.neg p y) := by
  obtain ⟨hc0, hc1⟩ := mul2_cast y y
  obtain ⟨ha1, ha2⟩ := mul2_lt y y
  set a := Fp2.mul p y y
  have h2 := two_ne_zero_of_lt p p_two
  have hp0 : 0 < p := p_two.trans' (by decide)
  have hne' : ¬ ((y.1 : ZMod p) = 0 ∧ (y.2 : ZMod p) = 0) := by
    rwa [cast_eq_zero p hy1, cast_eq_zero p hy2]
  by_cases hA : a.2 = 0
  · have hprod : 2 * ((y.1 : ZMod p) * y.2) = 0 := by
      rw [two_mul, ← Nat.cast_zero, ← hA, hc1, mul_comm (y.2 : ZMod p)]
    have hmodz : a.2 % p = 0 := by rw [hA]; rfl
    rcases mul_eq_zero.1 ((mul_eq_zero.1 hprod).resolve_left h2) with hz | hz
    · have hY1 : (y.2 : ZMod p) ≠ 0 := fun h => hne' ⟨hz, h⟩
      have hA0 : (a.1 : ZMod p) = -(y.2 : ZMod p) ^ 2 := by rw [hc0, hz, zero_mul, zero_sub, pow_two]
      have hnone : Fp.sqrt? p a.1 = none := sqrt_none p fun w => by rw [hA0]; exact neg_sq_not_sq _ hY1 w
      obtain ⟨x, hx, hxx⟩ := sqrt_of_cast_sq p p_mod_four p_bits (a := Fp.neg p a.1) hY1
        (by rw [c_neg, hA0, _root_.neg_neg])
      have hpm : (0, x) = y ∨ (0, x) = Fp2.neg p y := pm_of_cast hp0 (sqrt_some p hx).1 hy1 hy2
        ((sq_eq_sq_iff_eq_or_eq_neg.1 hxx).imp (fun e => ⟨by rw [hz]; exact Nat.cast_zero, e⟩)
          fun e => ⟨by rw [hz, neg_zero]; exact Nat.cast_zero, e⟩)
      exact ⟨_, sqrt2_eq_some.2 ⟨by rw [if_pos hmodz]; exact .inr ⟨hnone, x, hx, rfl⟩, sq_of_pm hpm⟩, hpm⟩
    · have hY0 : (y.1 : ZMod p) ≠ 0 := fun h => hne' ⟨h, hz⟩
      obtain ⟨x, hx, hxx⟩ := sqrt_of_cast_sq p p_mod_four p_bits (a := a.1) hY0
        (by rw [hc0, hz, mul_zero, sub_zero, pow_two])
      have hpm : (x, 0) = y ∨ (x, 0) = Fp2.neg p y := pm_of_cast (sqrt_some p hx).1 hp0 hy1 hy2
        ((sq_eq_sq_iff_eq_or_eq_neg.1 hxx).imp (fun e => ⟨e, by rw [hz]; exact Nat.cast_zero⟩)
          fun e => ⟨e, by rw [hz, neg_zero]; exact Nat.cast_zero⟩)
      exact ⟨_, sqrt2_eq_some.2 ⟨by rw [if_pos hmodz]; exact .inl ⟨x, hx, rfl⟩, sq_of_pm hpm⟩, hpm⟩
  · have hA1 : (a.2 : ZMod p) ≠ 0 := fun h => hA ((cast_eq_zero p ha2).1 h)
    have hY0 : (y.1 : ZMod p) ≠ 0 := by intro h; apply hA1; rw [hc1, h, zero_mul, mul_zero, add_zero]
    have hY1 : (y.2 : ZMod p) ≠ 0 := by intro h; apply hA1; rw [hc1, h, zero_mul, mul_zero, add_zero]
    have hmodnz : ¬ a.2 % p = 0 := by rwa [Nat.mod_eq_of_lt ha2]
    obtain ⟨n, hn, hnn⟩ := sqrt_of_cast_sq p p_mod_four p_bits
      (a := Fp.add p (Fp.mul p a.1 a.1) (Fp.mul p a.2 a.2)) (z := (y.1 : ZMod p) ^ 2 + (y.2 : ZMod p) ^ 2)
      (fun h => hY0 (sum_sq_zero _ _ h).1) (by rw [c_add, c_mul, c_mul, hc0, hc1]; ring)
    have nz {x : Nat} (hxx : (x : ZMod p) ^ 2 = (y.1 : ZMod p) ^ 2) : (x : ZMod p) ≠ 0 := fun h =>
      hY0 (by rwa [h, zero_pow two_ne_zero, eq_comm, sq_eq_zero_iff] at hxx)
    have hd1 (z : ZMod p) (h : (a.1 : ZMod p) + n = z * 2) :
        ((Fp.mul p (Fp.add p a.1 n) (Fp.inv p 2) : Nat) : ZMod p) = z := by
      rw [c_mul, c_add, c_inv p p_two p_bits, two_cast, h, mul_inv_cancel_right₀ h2]
    have hd2 (z : ZMod p) (h : (a.1 : ZMod p) - n = z * 2) :
        ((Fp.mul p (Fp.sub p a.1 n) (Fp.inv p 2) : Nat) : ZMod p) = z := by
      rw [c_mul, c_sub, c_inv p p_two p_bits, two_cast, h, mul_inv_cancel_right₀ h2]
    obtain ⟨x, hxx, hp⟩ : ∃ x : Nat, (x : ZMod p) ^ 2 = (y.1 : ZMod p) ^ 2 ∧
        ((Fp.sqrt? p (Fp.mul p (Fp.add p a.1 n) (Fp.inv p 2)) = some x ∧ x ≠ 0) ∨
         ((Fp.sqrt? p (Fp.mul p (Fp.add p a.1 n) (Fp.inv p 2)) = none ∨
           Fp.sqrt? p (Fp.mul p (Fp.add p a.1 n) (Fp.inv p 2)) = some 0) ∧
          Fp.sqrt? p (Fp.mul p (Fp.sub p a.1 n) (Fp.inv p 2)) = some x)) := by
      rcases sq_eq_sq_iff_eq_or_eq_neg.1 hnn with hnv | hnv
      · obtain ⟨x, hx, hxx⟩ := sqrt_of_cast_sq p p_mod_four p_bits hY0 (hd1 _ (by rw [hnv, hc0]; ring))
        exact ⟨x, hxx, .inl ⟨hx, fun h => nz hxx (by rw [h, Nat.cast_zero])⟩⟩
      · have hnone := sqrt_none p (a := Fp.mul p (Fp.add p a.1 n) (Fp.inv p 2)) fun w => by
          rw [hd1 (-(y.2 : ZMod p) ^ 2) (by rw [hnv, hc0]; ring)]
          exact neg_sq_not_sq _ hY1 w
        obtain ⟨x, hx, hxx⟩ := sqrt_of_cast_sq p p_mod_four p_bits hY0 (hd2 _ (by rw [hnv, hc0]; ring))
        exact ⟨x, hxx, .inr ⟨.inl hnone, hx⟩⟩
    have hx : x < p := by rcases hp with ⟨h, -⟩ | ⟨-, h⟩ <;> exact (sqrt_some p h).1
    have h2x : 2 * (x : ZMod p) ≠ 0 := mul_ne_zero h2 (nz hxx)
    have hC (z : ZMod p) (h : (a.2 : ZMod p) = z * (2 * x)) :
        ((Fp.mul p a.2 (Fp.inv p (Fp.mul p 2 x)) : Nat) : ZMod p) = z := by
      rw [c_mul, c_inv p p_two p_bits, c_mul, two_cast, h, mul_inv_cancel_right₀ h2x]
    have hpm := pm_of_cast (c := (x, Fp.mul p a.2 (Fp.inv p (Fp.mul p 2 x)))) hx (lt_mul p _ _) hy1 hy2
      ((sq_eq_sq_iff_eq_or_eq_neg.1 hxx).imp (fun e => ⟨e, hC _ (by rw [hc1, e]; ring)⟩)
        fun e => ⟨e, hC _ (by rw [hc1, e]; ring)⟩)
    exact ⟨_, sqrt2_eq_some.2 ⟨by rw [if_neg hmodnz]; exact ⟨n, hn, x, rfl, hp⟩, sq_of_pm hpm⟩, hpm⟩

theorem neg2_neg2 (y : Fp2.El) (hy1 : y.1 < p) (hy2 : y.2 < p) : Fp2.neg p (Fp2.neg p y) = y :=
  Prod.ext (Fp.neg_neg p hy1) (Fp.neg_neg p hy2)

theorem beNat_append (a b : Bytes) : beNat (a ++ b) = beNat a * 256 ^ b.length + beNat b :=
  Model.beNat_append a b

theorem readFp2_ser (x : Fp2.El) (h1 : x.1 < p) (h2 : x.2 < p) : readFp2 (natBE 48 x.1 ++ natBE 48 x.2) = .ok x := by
  have hl := natBE_length 48 x.1
  unfold readFp2
  rw [if_neg (by simp [natBE_length]), List.take_left' hl, List.drop_left' hl, readFp_natBE x.1 h1, readFp_natBE x.2 h2]

theorem y_ne_zero {x y : Fp2.El} (hc : Fp2.mul p y y = rhs x) : ¬ (y.1 = 0 ∧ y.2 = 0) := by
  rintro ⟨z1, z2⟩
  rw [show y = (0, 0) from Prod.ext z1 z2, mul_zero_zero] at hc
  exact no_y_zero2 x hc.symm

theorem spec : Spec 95 readFp2 (fun x => natBE 48 x.1 ++ natBE 48 x.2)
    (fun x => Fp2.sqrt? p (E2.f.add (E2.f.mul (E2.f.mul x x) x) E2.b)) (Fp2.sign p) (Fp2.neg p)
    (fun x => x.1 < p ∧ x.2 < p) (fun x y => Fp2.mul p y y = rhs x) where
  rd_ok c x h := by
    obtain ⟨hl, h1, h2, e1, e2⟩ := readFp2_ok c x h
    have hn1 := natBE_beNat (c.take 48)
    have hn2 := natBE_beNat (c.drop 48)
    rw [List.length_take, hl, show min 48 96 = 48 from rfl] at hn1
    rw [List.length_drop, hl, show 96 - 48 = 48 from rfl] at hn2
    exact ⟨⟨h1, h2⟩, by rw [e1, e2, hn1, hn2, List.take_append_drop]⟩
  rd_ser x hx := readFp2_ser x hx.1 hx.2
  ser_head x hx := by
    obtain ⟨h, t, e, htl, hh⟩ := natBE_head 47 x.1 (by have := p_lt; have := hx.1; omega)
    exact ⟨h, t ++ natBE 48 x.2, by rw [e]; rfl, by rw [List.length_append, htl, natBE_length], hh⟩
  sqrt_sound x y _ h := by
    obtain ⟨h1, h2, hyy⟩ := sqrt2_some p _ _ h
    rw [show E2.f.add (E2.f.mul (E2.f.mul x x) x) E2.b = rhs x from rfl, Nat.mod_eq_of_lt (rhs_lt x).1,
      Nat.mod_eq_of_lt (rhs_lt x).2] at hyy
    exact ⟨⟨h1, h2⟩, hyy⟩
  sqrt_complete x y _ hy hc := by
    have := sqrt2_of_square y hy.1 hy.2 (y_ne_zero hc)
    rwa [hc] at this
  neg_in y _ := neg2_lt y
  neg_curve x y h := (neg2_sq y).trans h
  neg_neg y hy := neg2_neg2 y hy.1 hy.2
  sign_le := sign_le2
  sign_neg x y hy hc := sign_neg2 y hy.1 hy.2 (y_ne_zero hc)

theorem readE2_eq (b : Bytes) : readE2 b = readPt 95 readFp2
    (fun x => Fp2.sqrt? p (E2.f.add (E2.f.mul (E2.f.mul x x) x) E2.b)) (Fp2.sign p) (Fp2.neg p) b := by
  unfold readE2 readPt
  cases readFp2 (clearHeader b) with
  | error e => rfl
  | ok x => dsimp only; cases Fp2.sqrt? p (E2.f.add (E2.f.mul (E2.f.mul x x) x) E2.b) <;> rfl

theorem writeE2_eq (P : P2) : writeE2 P = writePt 95 (fun x => natBE 48 x.1 ++ natBE 48 x.2) (Fp2.sign p) P := by
  unfold writeE2 writePt
  rcases P with _ | ⟨x, y⟩
  · rfl
  · dsimp only; cases natBE 48 x.1 ++ natBE 48 x.2 <;> rfl

theorem readE2_length (b : Bytes) (P : P2) (h : readE2 b = .ok P) : b.length = 96 :=
  read_length (readE2_eq b ▸ h)

theorem valid_iff (P : P2) :
    Valid P ↔ PointCodec.Valid (fun x : Fp2.El => x.1 < p ∧ x.2 < p) (fun x y => Fp2.mul p y y = rhs x) P :=
  ⟨fun h x y e => let ⟨a, b, c, d, f⟩ := h x y e; ⟨⟨a, b⟩, ⟨c, d⟩, f⟩,
   fun h x y e => let ⟨⟨a, b⟩, ⟨c, d⟩, f⟩ := h x y e; ⟨a, b, c, d, f⟩⟩

/-- **round trip**: every reduced affine point of E2 (and the point at infinity) serializes to bytes that
    `E2_read_bytes` maps back to the same point -/
theorem e2_roundtrip (P : P2) (hP : Valid P) : readE2 (writeE2 P) = .ok P := by
  rw [writeE2_eq, readE2_eq]
  exact roundtrip spec P ((valid_iff P).1 hP)

/-- **accepted = canonical encodings of curve points** for E2 -/
theorem e2_accepts_iff (b : Bytes) (P : P2) : readE2 b = .ok P ↔ (Valid P ∧ writeE2 P = b) := by
  rw [readE2_eq, writeE2_eq, valid_iff]
  exact accepts_iff spec b P

theorem e2_unique_encoding (b b' : Bytes) (P : P2) (h : readE2 b = .ok P) (h' : readE2 b' = .ok P) : b = b' := by
  rw [← ((e2_accepts_iff b P).1 h).2, ← ((e2_accepts_iff b' P).1 h').2]

end Proofs.E2Codec
