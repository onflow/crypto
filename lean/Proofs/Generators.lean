import Model.Bls
import Model.Ecdsa

/-! The four base points are annihilated by their group order: the model's own double-and-add on the real constants,
evaluated by the kernel once each. -/

namespace Proofs.Generators
open Model

theorem mul_r_g1 : Curve.mul Bls.E1 Bls.r Bls.g1 = none := by decide +kernel

theorem mul_r_g2 : Curve.mul Bls.E2 Bls.r Bls.g2 = none := by decide +kernel

theorem mul_n_p256 : Curve.mul Ecdsa.p256.C Ecdsa.p256.n Ecdsa.p256.g = none := by decide +kernel

theorem mul_n_k256 : Curve.mul Ecdsa.k256.C Ecdsa.k256.n Ecdsa.k256.g = none := by decide +kernel

end Proofs.Generators
