import Proofs.DkgJointAgree
import Proofs.DkgHonest

/-! Joint-Feldman: from the API calls of two participants to the agreement of their `End` results. `jfinal` runs the
*model's API functions* (`Joint.handleBroadcast`, `Joint.handlePrivate`, `Joint.nextTimeout`) over three rounds of
deliveries; the participant's `n` instances are then exactly `final · r1 r2 r3` of the instances after `Joint.start`
(`jfinal_fvss`, `joint_start_fvss`), so the instance-wise agreement of `Proofs.DkgJointAgree` gives
`joint_feldman_agreement`. -/

namespace Proofs.DkgAgree
open Model Model.Dkg Proofs.DkgCommute

variable {O : Ops}

/-- one delivery through the API of the model (`HandleBroadcastMsg` / `HandlePrivateMsg`) -/
def jdeliver (j : JSt O) : Dl → JSt O
  | .bcast o m => (Joint.handleBroadcast j o m).1
  | .priv o m => (Joint.handlePrivate j o m).1

def jround (j : JSt O) (l : List Dl) : JSt O := l.foldl jdeliver j

def jtimeout (j : JSt O) : JSt O := (Joint.nextTimeout j).1

/-- three rounds of deliveries with the two timeouts in between -/
def jfinal (j : JSt O) (r1 r2 r3 : List Dl) : JSt O :=
  jround (jtimeout (jround (jtimeout (jround j r1)) r2)) r3

/-- the running participant: all instances run, have size `n` and the timeout flags `st`, `ct` -/
structure JI (n : Nat) (st ct : Bool) (j : JSt O) : Prop where
  run : j.jointRunning = true
  all : ∀ s ∈ j.fvss, s.running = true ∧ s.size = n ∧ s.sharesTimeout = st ∧ s.complaintsTimeout = ct

theorem jdeliver_fvss {n : Nat} {st ct : Bool} {j : JSt O} (h : JI n st ct j) (e : Dl) (he : e.sender < n) :
    (jdeliver j e).fvss = j.fvss.map (fun s => step s e) ∧ (jdeliver j e).size = j.size ∧
    (jdeliver j e).threshold = j.threshold ∧ JI n st ct (jdeliver j e) := by
  have hall : ∀ s ∈ j.fvss, s.running = true ∧ e.sender < s.size := fun s hs =>
    ⟨(h.all s hs).1, by rw [(h.all s hs).2.1]; exact he⟩
  -- a running participant hands the message to its instances and changes nothing else
  have key : (jdeliver j e).fvss = j.fvss.map (fun s => step s e) ∧ (jdeliver j e).size = j.size ∧
      (jdeliver j e).threshold = j.threshold ∧ (jdeliver j e).jointRunning = true := by
    cases e with
    | bcast o m =>
      refine ⟨joint_bcast j o m h.run hall, ?_⟩
      show (Joint.handleBroadcast j o m).1.size = j.size ∧ (Joint.handleBroadcast j o m).1.threshold = j.threshold ∧
        (Joint.handleBroadcast j o m).1.jointRunning = true
      unfold Joint.handleBroadcast
      rw [h.run, Bool.not_true, if_neg Bool.false_ne_true]
      exact ⟨rfl, rfl, rfl⟩
    | priv o m =>
      refine ⟨joint_priv j o m h.run hall, ?_⟩
      show (Joint.handlePrivate j o m).1.size = j.size ∧ (Joint.handlePrivate j o m).1.threshold = j.threshold ∧
        (Joint.handlePrivate j o m).1.jointRunning = true
      unfold Joint.handlePrivate
      rw [h.run, Bool.not_true, if_neg Bool.false_ne_true]
      exact ⟨rfl, rfl, rfl⟩
  refine ⟨key.1, key.2.1, key.2.2.1, key.2.2.2, ?_⟩
  intro s hs
  rw [key.1] at hs
  obtain ⟨s0, hs0, rfl⟩ := List.mem_map.1 hs
  obtain ⟨a, b, c, d⟩ := h.all s0 hs0
  have f := step_cfg_any s0 e
  exact ⟨f.running.trans a, f.size.trans b, f.sharesTimeout.trans c, f.complaintsTimeout.trans d⟩

theorem jround_fvss {n : Nat} {st ct : Bool} (l : List Dl) (j : JSt O) (h : JI n st ct j)
    (hl : ∀ e ∈ l, e.sender < n) :
    (jround j l).fvss = j.fvss.map (fun s => runList s l) ∧ (jround j l).size = j.size ∧
    (jround j l).threshold = j.threshold ∧ JI n st ct (jround j l) := by
  induction l generalizing j with
  | nil =>
    refine ⟨?_, rfl, rfl, h⟩
    show j.fvss = j.fvss.map (fun s => s)
    rw [List.map_id']
  | cons e t ih =>
    have d := jdeliver_fvss h e (hl e List.mem_cons_self)
    have r := ih (jdeliver j e) d.2.2.2 (fun x hx => hl x (List.mem_cons_of_mem _ hx))
    refine ⟨?_, r.2.1.trans d.2.1, r.2.2.1.trans d.2.2.1, r.2.2.2⟩
    show (jround (jdeliver j e) t).fvss = _
    rw [r.1, d.1, List.map_map]
    rfl

theorem jtimeout_fvss {n : Nat} {st : Bool} {j : JSt O} (h : JI n st false j) :
    (jtimeout j).fvss = j.fvss.map tstep ∧ (jtimeout j).size = j.size ∧ (jtimeout j).threshold = j.threshold ∧
    JI n true st (jtimeout j) := by
  have hall : ∀ s ∈ j.fvss, s.running = true ∧ s.complaintsTimeout = false := fun s hs =>
    ⟨(h.all s hs).1, (h.all s hs).2.2.2⟩
  have k1 : (jtimeout j).fvss = j.fvss.map tstep := joint_timeout j h.run hall
  have k2 : (jtimeout j).size = j.size ∧ (jtimeout j).threshold = j.threshold ∧ (jtimeout j).jointRunning = true := by
    unfold jtimeout Joint.nextTimeout
    rw [h.run, Bool.not_true, if_neg Bool.false_ne_true]
    exact ⟨rfl, rfl, rfl⟩
  refine ⟨k1, k2.1, k2.2.1, k2.2.2, ?_⟩
  intro s hs
  rw [k1] at hs
  obtain ⟨s0, hs0, rfl⟩ := List.mem_map.1 hs
  obtain ⟨a, b, c, d⟩ := h.all s0 hs0
  exact ⟨(tstep_running s0).trans a, (tstep_size s0).trans b, tstep_st s0, by rw [tstep_ct, c, d, Bool.or_false]⟩

theorem jfinal_fvss {n : Nat} (j : JSt O) (h : JI n false false j) (r1 r2 r3 : List Dl)
    (h1 : ∀ e ∈ r1, e.sender < n) (h2 : ∀ e ∈ r2, e.sender < n) (h3 : ∀ e ∈ r3, e.sender < n) :
    (jfinal j r1 r2 r3).fvss = j.fvss.map (fun s => final s r1 r2 r3) ∧ (jfinal j r1 r2 r3).size = j.size ∧
    (jfinal j r1 r2 r3).threshold = j.threshold ∧ JI n true true (jfinal j r1 r2 r3) := by
  have a1 := jround_fvss r1 j h h1
  have t1 := jtimeout_fvss a1.2.2.2
  have a2 := jround_fvss r2 _ t1.2.2.2 h2
  have t2 := jtimeout_fvss a2.2.2.2
  have a3 := jround_fvss r3 _ t2.2.2.2 h3
  refine ⟨?_, ?_, ?_, a3.2.2.2⟩
  · show (jround (jtimeout (jround (jtimeout (jround j r1)) r2)) r3).fvss = _
    rw [a3.1, t2.1, a2.1, t1.1, a1.1]
    simp only [List.map_map]
    rfl
  · exact a3.2.1.trans (t2.2.1.trans (a2.2.1.trans (t1.2.1.trans a1.2.1)))
  · exact a3.2.2.1.trans (t2.2.2.1.trans (a2.2.2.1.trans (t1.2.2.1.trans a1.2.2.1)))

theorem forAll_ok (f : St O → St O × List Out × Res) : ∀ (L L' : List (St O)) (o : List Out),
    Joint.forAll f L = (L', o, .ok) → L' = L.map (fun s => (f s).1) ∧ ∀ s ∈ L, (f s).2.2 = .ok
  | [], L', o, h => by
    unfold Joint.forAll at h
    cases h
    exact ⟨rfl, fun s hs => by cases hs⟩
  | s :: rest, L', o, h => by
    unfold Joint.forAll at h
    cases hf : f s with
    | mk s' r =>
      obtain ⟨o1, r1⟩ := r
      rw [hf] at h
      cases r1 with
      | ok =>
        simp only [] at h
        cases hr : Joint.forAll f rest with
        | mk rest' q =>
          obtain ⟨o2, r2⟩ := q
          rw [hr] at h
          simp only [Prod.mk.injEq] at h
          obtain ⟨h1, _, h3⟩ := h
          subst h3
          have ih := forAll_ok f rest rest' o2 hr
          refine ⟨?_, ?_⟩
          · rw [← h1, ih.1, List.map_cons, hf]
          · intro x hx
            rcases List.mem_cons.1 hx with e | e
            · rw [e, hf]
            · exact ih.2 x e
      | _ => exact Res.noConfusion (congrArg (fun x => x.2.2) h)

theorem start_dealer_frame (K : Finset Nat) (size threshold me : Nat) (seed : Bytes) (s' : St O) (outs : List Out)
    (h : Dkg.start ({ size := size, threshold := threshold, me := me, dealer := me } : St O) seed = (s', outs, .ok)) :
    (∃ a, DS K (O.vecOfPoly size a) s') ∧ s'.size = size ∧ s'.threshold = threshold ∧ s'.sharesTimeout = false ∧
      s'.complaintsTimeout = false ∧ s'.dealer = me := by
  refine ⟨ds_after_start K size threshold me seed s' outs h, ?_⟩
  obtain ⟨a, x, rfl⟩ := start_ok_eq size threshold me seed s' outs h
  exact ⟨rfl, rfl, rfl, rfl, rfl⟩

/-- a `Joint.start` that succeeds has started every instance, and each start succeeded -/
theorem joint_start_ok {j j' : JSt O} {seed : Bytes} {outs : List Out} (hr : j.jointRunning = false)
    (h : Joint.start j seed = (j', outs, .ok)) :
    j' = { j with fvss := j.fvss.map (fun s => { (Dkg.start { s with running := false } seed).1 with running := true }),
                  jointRunning := true } ∧
    ∀ s ∈ j.fvss, (Dkg.start { s with running := false } seed).2.2 = .ok := by
  unfold Joint.start at h
  rw [if_neg (by rw [hr]; exact Bool.false_ne_true)] at h
  cases hf : Joint.forAll (fun s => Dkg.start { s with running := false } seed) j.fvss with
  | mk fv q =>
    obtain ⟨o, r⟩ := q
    rw [hf] at h
    have hr : r = .ok := by cases r <;> exact congrArg (fun x => x.2.2) h
    subst hr
    have fo := forAll_ok _ _ _ _ hf
    cases h
    exact ⟨by rw [fo.1, List.map_map]; rfl, fo.2⟩

/-- `Start` of an instance whose dealer is somebody else only sets `running` -/
theorem start_receiver (size threshold me i : Nat) (hi : i ≠ me) (seed : Bytes) :
    Dkg.start ({ size := size, threshold := threshold, me := me, dealer := i } : St O) seed =
      (fresh O size threshold me i, [], .ok) := by
  unfold Dkg.start Dkg.startBody
  rw [if_neg Bool.false_ne_true]
  exact if_neg hi

theorem joint_start_fvss (K : Finset Nat) (size threshold me : Nat) (seed : Bytes) (j : JSt O) (outs : List Out)
    (hme : me < size) (h : Joint.start (Joint.init O size threshold me) seed = (j, outs, .ok)) :
    ∃ sD : St O, (∃ a, DS K (O.vecOfPoly size a) sD) ∧ sD.size = size ∧ sD.threshold = threshold ∧ sD.running = true ∧
      sD.sharesTimeout = false ∧ sD.complaintsTimeout = false ∧ sD.dealer = me ∧
      j.fvss = (List.range size).map (fun i => if i = me then sD else fresh O size threshold me i) ∧
      j.size = size ∧ j.threshold = threshold ∧ j.jointRunning = true := by
  obtain ⟨rfl, hok⟩ := joint_start_ok (j := Joint.init O size threshold me) rfl h
  -- the node's own instance is the one it deals
  have hok : (Dkg.start ({ size := size, threshold := threshold, me := me, dealer := me } : St O) seed).2.2 = .ok :=
    hok _ (List.mem_map.2 ⟨me, List.mem_range.2 hme, rfl⟩)
  cases hst : Dkg.start ({ size := size, threshold := threshold, me := me, dealer := me } : St O) seed with
  | mk sD0 q0 =>
    obtain ⟨o0, r0⟩ := q0
    rw [hst] at hok
    cases (hok : r0 = .ok)
    obtain ⟨⟨a, hDS⟩, f1, f2, f3, f4, f5⟩ := start_dealer_frame K size threshold me seed sD0 o0 hst
    refine ⟨{ sD0 with running := true }, ⟨a, ds_congr hDS rfl rfl rfl rfl rfl rfl rfl⟩, f1, f2, rfl, f3, f4, f5, ?_,
      rfl, rfl, rfl⟩
    show ((List.range size).map _).map _ = _
    rw [List.map_map]
    refine List.map_congr_left fun i _ => ?_
    show ({ (Dkg.start ({ size := size, threshold := threshold, me := me, dealer := i } : St O) seed).1 with
      running := true } : St O) = _
    by_cases hi : i = me
    · rw [if_pos hi, hi, hst]
    · rw [if_neg hi, start_receiver size threshold me i hi]; rfl

/-- **delivery hypotheses for the instance of an honest dealer**, seen by the dealer itself (rounds `rd1 rd2 rd3`) and by
    an honest receiver whose instance starts in `sR` (rounds `rr1 rr2 rr3`): the receiver gets the dealer's vector `v`
    and a share valid against it in the first round, every answer it sees is valid against `v`, only the at most `t`
    participants of `K` ever complain against the dealer (at the dealer and at the receiver), and each of them is
    answered. This is what an honest dealer, reliable broadcast and round synchrony give (the hypotheses of
    `honest_dealer_view` and `dealer_side_view` together). -/
def OwnNet (K : Finset Nat) (v : O.Vec) (sR : St O) (rd1 rd2 rd3 rr1 rr2 rr3 : List Dl) : Prop :=
  ∃ H : Honest O, H.v0 = v ∧ H.me = sR.me ∧ K.card ≤ sR.threshold ∧
    (∀ o m, Dl.bcast o m ∈ rd1 → m.headD 0 = tagComplaint → o ∈ K) ∧
    (∀ o m, Dl.bcast o m ∈ rd2 → m.headD 0 = tagComplaint → o ∈ K) ∧
    (∀ o m, Dl.bcast o m ∈ rd3 → m.headD 0 = tagComplaint → o ∈ K) ∧
    RoundOK' H K sR false rr1 ∧ RoundOK' H K sR false rr2 ∧ RoundOK' H K sR true rr3 ∧
    (∃ e ∈ rr1, ∃ d, ∀ t, CfgCT sR false t → classify t e = .vec d) ∧
    (∃ e ∈ rr1, ∃ d, ∀ t, CfgCT sR false t → classify t e = .share d) ∧
    (∀ k ∈ K, ∃ a, (∃ e ∈ rr1, ∀ t, CfgCT sR false t → classify t e = .ans k (some a)) ∨
      (∃ e ∈ rr2, ∀ t, CfgCT sR false t → classify t e = .ans k (some a)) ∨
      (∃ e ∈ rr3, ∀ t, CfgCT sR true t → classify t e = .ans k (some a)))

theorem own_instance_views_agree (K : Finset Nat) (v : O.Vec) (sD : St O) (hD : DS K v sD)
    (size threshold rcv dealer : Nat) (hne : rcv ≠ dealer) (hthr : sD.threshold = threshold)
    (rd1 rd2 rd3 rr1 rr2 rr3 : List Dl)
    (N : OwnNet K v (fresh O size threshold rcv dealer) rd1 rd2 rd3 rr1 rr2 rr3) :
    pview (final sD rd1 rd2 rd3) = pview (final (fresh O size threshold rcv dealer) rr1 rr2 rr3) := by
  obtain ⟨H, hv, hme, hK, k1, k2, k3, ok1, ok2, ok3, hvec, hshare, hans⟩ := N
  have hme' : H.me = rcv := hme
  subst hme'
  have hR : HD H (fresh O size threshold H.me dealer) := hd_init H size threshold dealer hne
  rw [dealer_side_view K v sD hD (by rw [hthr]; exact hK) rd1 rd2 rd3 k1 k2 k3,
    honest_dealer_view H K _ hR rfl rfl hK (fun k c hc => by cases hc) rr1 rr2 rr3 ok1 ok2 ok3 hvec hshare hans, hv]

/-- the instances of a node after `Start`, its own among them, are all running and before the first timeout -/
theorem started_ji {size threshold me : Nat} {j : JSt O} {sD : St O} (hme : me < size) (h1 : sD.size = size)
    (h3 : sD.running = true) (h4 : sD.sharesTimeout = false) (h5 : sD.complaintsTimeout = false)
    (fv : j.fvss = (List.range size).map (fun i => if i = me then sD else fresh O size threshold me i))
    (run : j.jointRunning = true) : JI size false false j ∧ sD ∈ j.fvss := by
  refine ⟨⟨run, fun s hs' => ?_⟩, ?_⟩
  · rw [fv] at hs'
    obtain ⟨i, _, rfl⟩ := List.mem_map.1 hs'
    by_cases hi : i = me
    · rw [if_pos hi]; exact ⟨h3, h1, h4, h5⟩
    · rw [if_neg hi]; exact ⟨rfl, rfl, rfl, rfl⟩
  · rw [fv]; exact List.mem_map.2 ⟨me, List.mem_range.2 hme, by rw [if_pos rfl]⟩

/-- **agreement of two honest Joint-Feldman participants, on executions of the model's API**: `A` and `B` are started
    with `Joint.start` (any seeds), receive three rounds of deliveries through `HandleBroadcastMsg` /
    `HandlePrivateMsg` with `NextTimeout` in between (`jfinal`), and call `End`. If
    * the network is a reliable broadcast with synchronous rounds for every third-party dealer's instance (`NetD`:
      what a third party broadcasts reaches both, possibly in different orders and interleavings; what `A`'s
      instance of dealer `d` broadcasts — computed by the model, `bR1..3` — is what `B` receives from `A` about `d`,
      and vice versa) — the dealer and every other participant may behave arbitrarily —, and
    * the two instances `A` and `B` deal themselves are delivered as an honest dealer's are (`OwnNet`, for the
      vector the dealer actually holds after `Start`),
    then both `End` calls have the same public result: both fail (too many disqualified dealers, no sum of the
    vectors, or an identity group key) or both return the same group public key and the same public key shares, each with its own private
    share (a participant fails privately only if its combined share is zero). -/
theorem joint_feldman_agreement (size threshold A B : Nat) (hs : size ≤ 256) (hA : A < size) (hB : B < size)
    (hab : A ≠ B) (seedA seedB : Bytes) (jA jB : JSt O) (outsA outsB : List Out)
    (stA : Joint.start (Joint.init O size threshold A) seedA = (jA, outsA, .ok))
    (stB : Joint.start (Joint.init O size threshold B) seedB = (jB, outsB, .ok))
    (rA1 rA2 rA3 rB1 rB2 rB3 : List Dl)
    (ba1 : ∀ e ∈ rA1, e.sender < size) (ba2 : ∀ e ∈ rA2, e.sender < size) (ba3 : ∀ e ∈ rA3, e.sender < size)
    (bb1 : ∀ e ∈ rB1, e.sender < size) (bb2 : ∀ e ∈ rB2, e.sender < size) (bb3 : ∀ e ∈ rB3, e.sender < size)
    (third : ∀ d, d < size → d ≠ A → d ≠ B →
      NetD d A B rA1 rB1 (bR1 (fresh O size threshold A d) rA1) (bR1 (fresh O size threshold B d) rB1) ∧
      NetD d A B rA2 rB2 (bR2 (fresh O size threshold A d) rA1 rA2) (bR2 (fresh O size threshold B d) rB1 rB2) ∧
      NetD d A B rA3 rB3 (bR3 (fresh O size threshold A d) rA1 rA2 rA3) (bR3 (fresh O size threshold B d) rB1 rB2 rB3))
    (KA KB : Finset Nat)
    (ownA : ∀ sD ∈ jA.fvss, sD.dealer = A → ∀ v, sD.vA = some v →
      OwnNet KA v (fresh O size threshold B A) rA1 rA2 rA3 rB1 rB2 rB3)
    (ownB : ∀ sD ∈ jB.fvss, sD.dealer = B → ∀ v, sD.vA = some v →
      OwnNet KB v (fresh O size threshold A B) rB1 rB2 rB3 rA1 rA2 rA3) :
    ∃ pub : Option (Bytes × List Bytes), ∃ xA xB : Nat,
      (Joint.end_ (jfinal jA rA1 rA2 rA3)).2.2 =
        (match pub with | none => .failure | some Yys => if xA = 0 then .failure else .keys xA Yys.1 Yys.2) ∧
      (Joint.end_ (jfinal jB rB1 rB2 rB3)).2.2 =
        (match pub with | none => .failure | some Yys => if xB = 0 then .failure else .keys xB Yys.1 Yys.2) := by
  obtain ⟨sDA, ⟨aA, dsA⟩, a1, a2, a3, a4, a5, a6, fvA, szA, thA, runA⟩ :=
    joint_start_fvss KA size threshold A seedA jA outsA hA stA
  obtain ⟨sDB, ⟨aB, dsB⟩, b1, b2, b3, b4, b5, b6, fvB, szB, thB, runB⟩ :=
    joint_start_fvss KB size threshold B seedB jB outsB hB stB
  obtain ⟨jiA, memA⟩ := started_ji hA a1 a3 a4 a5 fvA runA
  obtain ⟨jiB, memB⟩ := started_ji hB b1 b3 b4 b5 fvB runB
  have fA := jfinal_fvss jA jiA rA1 rA2 rA3 ba1 ba2 ba3
  have fB := jfinal_fvss jB jiB rB1 rB2 rB3 bb1 bb2 bb3
  have hv : (jfinal jA rA1 rA2 rA3).fvss.map pview = (jfinal jB rB1 rB2 rB3).fvss.map pview := by
    rw [fA.1, fB.1, fvA, fvB]
    simp only [List.map_map]
    apply List.map_congr_left
    intro i hi
    have hi' : i < size := List.mem_range.1 hi
    simp only [Function.comp]
    by_cases hiA : i = A
    · subst hiA
      rw [if_pos rfl, if_neg hab]
      exact own_instance_views_agree KA _ sDA dsA size threshold B i (Ne.symm hab) a2 rA1 rA2 rA3 rB1 rB2 rB3
        (ownA sDA memA a6 _ dsA.vA)
    · by_cases hiB : i = B
      · subst hiB
        rw [if_neg hiA, if_pos rfl]
        exact (own_instance_views_agree KB _ sDB dsB size threshold A i hab b2 rB1 rB2 rB3 rA1 rA2 rA3
          (ownB sDB memB b6 _ dsB.vA)).symm
      · rw [if_neg hiA, if_neg hiB]
        obtain ⟨n1, n2, n3⟩ := third i hi' hiA hiB
        exact pview_agree_instance size threshold i A B hi' hs hA hB (Ne.symm hiA) (Ne.symm hiB) hab
          rA1 rA2 rA3 rB1 rB2 rB3 ba1 ba2 ba3 bb1 bb2 bb3 n1 n2 n3
  have tA : ∀ s ∈ (jfinal jA rA1 rA2 rA3).fvss, s.sharesTimeout = true ∧ s.complaintsTimeout = true :=
    fun s hs' => ⟨(fA.2.2.2.all s hs').2.2.1, (fA.2.2.2.all s hs').2.2.2⟩
  have tB : ∀ s ∈ (jfinal jB rB1 rB2 rB3).fvss, s.sharesTimeout = true ∧ s.complaintsTimeout = true :=
    fun s hs' => ⟨(fB.2.2.2.all s hs').2.2.1, (fB.2.2.2.all s hs').2.2.2⟩
  refine ⟨jpub size threshold (jfinal jA rA1 rA2 rA3).fvss, jshare (jfinal jA rA1 rA2 rA3).fvss,
    jshare (jfinal jB rB1 rB2 rB3).fvss, ?_, ?_⟩
  · rw [joint_end _ fA.2.2.2.run tA, jres_jpub, fA.2.1, fA.2.2.1, szA, thA]
    cases jpub size threshold (jfinal jA rA1 rA2 rA3).fvss <;> rfl
  · rw [joint_end _ fB.2.2.2.run tB, jres_jpub, fB.2.1, fB.2.2.1, szB, thB,
      ← jpub_of_pviews size threshold _ _ hv]
    cases jpub size threshold (jfinal jA rA1 rA2 rA3).fvss <;> rfl

end Proofs.DkgAgree
