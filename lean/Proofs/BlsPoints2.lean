import Proofs.BlsPoints
import Proofs.CurveInst2
import Proofs.E2Codec

/-! The bridge theorems for the curve `Bls.E2` of the model, the agreement of the validity predicate of the public-key
codec with that of the bridge, and the subgroup tests `Bls.inG1` / `Bls.inG2` as `r`-torsion in the group of the curve. -/

namespace Proofs.CurveInst2
open Model Model.Curve Proofs.CurveGroup2 Proofs.BlsConcrete

theorem mul_E2 (k : ℕ) (hk : k < 2 ^ 800) (P : Bls.P2) (hP : Valid Bls.p (0, 0) (4, 4) P) :
    Curve.mul Bls.E2 k P = ofPoint2 Bls.p (0, 0) (4, 4) (k • toPoint Bls.p (0, 0) (4, 4) P) :=
  mul_ofPoint Bls.p (0, 0) (4, 4) bls2_Δ E1Codec.p_two E1Codec.p_bits k hk P hP

theorem mul_g2 (k : ℕ) (hk : k < 2 ^ 800) :
    Curve.mul Bls.E2 k Bls.g2 = ofPoint2 Bls.p (0, 0) (4, 4) (k • toPoint Bls.p (0, 0) (4, 4) Bls.g2) :=
  mul_E2 k hk Bls.g2 bls_g2_valid

theorem addAff_E2 (P Q : Bls.P2) (hP : Valid Bls.p (0, 0) (4, 4) P) (hQ : Valid Bls.p (0, 0) (4, 4) Q) :
    Curve.addAff Bls.E2 P Q = ofPoint2 Bls.p (0, 0) (4, 4) (toPoint Bls.p (0, 0) (4, 4) P + toPoint Bls.p (0, 0) (4, 4) Q) :=
  addAff_ofPoint Bls.p (0, 0) (4, 4) bls2_Δ E1Codec.p_two E1Codec.p_bits P Q hP hQ

theorem sum_E2 (ps : List Bls.P2) (hps : ∀ P ∈ ps, Valid Bls.p (0, 0) (4, 4) P) :
    Curve.sum Bls.E2 ps = ofPoint2 Bls.p (0, 0) (4, 4) (ps.map (toPoint Bls.p (0, 0) (4, 4))).sum :=
  sum_ofPoint Bls.p (0, 0) (4, 4) bls2_Δ E1Codec.p_two E1Codec.p_bits ps hps

theorem rhs_eq (x : Fp2.El) : Proofs.E2Codec.rhs x =
    Fp2.add Bls.p (Fp2.add Bls.p (Fp2.mul Bls.p (Fp2.mul Bls.p x x) x) (Fp2.mul Bls.p (0, 0) x)) (4, 4) := by
  unfold Proofs.E2Codec.rhs
  rw [← cast_inj Bls.p (lt_add Bls.p _ _) (lt_add Bls.p _ _), c_add, c_add, c_add, c_mul Bls.p (0, 0) x, c_zero]
  ring

theorem valid_iff_codec (P : Bls.P2) : Proofs.E2Codec.Valid P ↔ Valid Bls.p (0, 0) (4, 4) P := by
  cases P with
  | none => exact ⟨fun _ => True.intro, fun _ _ _ h => nomatch h⟩
  | some xy =>
    obtain ⟨x, y⟩ := xy
    show _ ↔ canon Bls.p x ∧ canon Bls.p y ∧ (Fp2.mul Bls.p y y == Fp2.add Bls.p (Fp2.add Bls.p
      (Fp2.mul Bls.p (Fp2.mul Bls.p x x) x) (Fp2.mul Bls.p (0, 0) x)) (4, 4)) = true
    rw [beq_iff_eq, ← rhs_eq]
    constructor
    · intro h
      obtain ⟨hx1, hx2, hy1, hy2, hc⟩ := h x y rfl
      exact ⟨⟨hx1, hx2⟩, ⟨hy1, hy2⟩, hc⟩
    · rintro ⟨hx, hy, hc⟩ x' y' h
      cases h
      exact ⟨hx.1, hx.2, hy.1, hy.2, hc⟩

end Proofs.CurveInst2

namespace Proofs.BlsConcrete
open Model Model.Curve

local notation "r" => Model.Bls.r

section E1
open Proofs.CurveGroup Proofs.CurveInst

/-- **the G1 membership test of the model is `r • P = 0` in the group of the curve** -/
theorem inG1_iff_torsion (P : Bls.P1) (hP : Valid Bls.p 0 4 P) :
    Bls.inG1 P = true ↔ r • toPoint Bls.p 0 4 P = 0 := inG1_iff P hP

end E1

section E2
open Proofs.CurveGroup2 Proofs.CurveInst2

/-- **the G2 membership test of the model is `r • P = 0` in the group of the curve over `F_p²`** -/
theorem inG2_iff_torsion (P : Bls.P2) (hP : Proofs.CurveGroup2.Valid Bls.p (0, 0) (4, 4) P) :
    Bls.inG2 P = true ↔ r • Proofs.CurveGroup2.toPoint Bls.p (0, 0) (4, 4) P = 0 := by
  unfold Bls.inG2
  rw [mul_E2 Bls.r Bls.r_bits P hP, Option.isNone_iff_eq_none, ofPoint_eq_none]

end E2

end Proofs.BlsConcrete
