import Proofs.DkgAgree

/-! The private share a participant holds at `End` is never zero (so `End` never fails *privately* at one honest
participant while another one returns keys): scalars read from the wire are never zero (`ReadsNonzero`: Go's `readScalarFrStar`), the
share is either such a scalar or the adopted answer to the participant's own complaint, and an answered table entry
carries such a scalar unless the dealer is disqualified. Together with `Proofs.DkgAgree.agreement` this gives the
full agreement statement on what `End` returns. -/

namespace Proofs.DkgAgree
open Model Model.Dkg Proofs.DkgCommute
variable {O : Ops}

/-- scalars read from the wire are non-zero (`Fr_star_read_bytes`) -/
def ReadsNonzero (O : Ops) : Prop := ∀ b n, O.readScalar b = some n → n ≠ 0

/-- an answered entry carries a non-zero scalar -/
def TA (s : St O) : Prop := ∀ k c, s.find k = some c → c.answerReceived = true → c.answer ≠ 0

/-- a stored share is non-zero, unless the participant has complained (then the answer will replace it) -/
def XS (s : St O) : Prop := s.xReceived = false ∨ s.x ≠ 0 ∨ ownRecv s = true

/-- both, for a participant whose dealer is not disqualified -/
def NZ (s : St O) : Prop := s.disqualified = false → TA s ∧ XS s

theorem nz_disq {s : St O} (h : s.disqualified = true) : NZ s := fun h' => Bool.noConfusion (h.symm.trans h')

/-- entries a descriptor may write: answered ones are non-zero, or the descriptor disqualifies -/
def EntryOK (u : Upd) : Prop := ∀ c, u.entry = some c → c.answerReceived = true → c.answer ≠ 0 ∨ u.disq = some true

theorem ta_applyUpd (s : St O) (hta : TA s) (K : Nat) (u : Upd) (hu : EntryOK u)
    (hd : (applyUpd s K u).disqualified = false) : TA (applyUpd s K u) := by
  intro k c hf har
  rw [applyUpd_find] at hf
  split at hf
  · cases he : u.entry with
    | none => rw [he] at hf; exact hta K c hf har
    | some c' =>
      rw [he] at hf
      cases hf
      rcases hu c he har with h | h
      · exact h
      · rw [applyUpd_disq, h] at hd; cases hd
  · exact hta k c hf har

theorem xs_applyUpd (s : St O) (hxs : XS s) (K : Nat) (u : Upd) (hx : ∀ a, u.x = some a → a ≠ 0)
    (hown : ownRecv s = true → ownRecv (applyUpd s K u) = true) : XS (applyUpd s K u) := by
  rcases hxs with h | h | h
  · left; rw [applyUpd_xReceived]; exact h
  · right; left
    rw [applyUpd_x]
    cases hu : u.x with
    | none => exact h
    | some a => exact hx a hu
  · right; right; exact hown h

theorem nz_applyUpd {s : St O} (h : NZ s) (hdq : s.disqualified = false) (K : Nat) (u : Upd) (hu : EntryOK u)
    (hx : ∀ a, u.x = some a → a ≠ 0) (hown : ownRecv s = true → ownRecv (applyUpd s K u) = true) :
    NZ (applyUpd s K u) :=
  fun hd => ⟨ta_applyUpd s (h hdq).1 K u hu hd, xs_applyUpd s (h hdq).2 K u hx hown⟩

theorem rcU_entryOK (s : St O) (hta : TA s) (k : Nat) : EntryOK (rcU (s.find k) s.vAReceived (s.checkComplaint k)) := by
  intro c he har
  left
  rcases (rcU_cases _ _ _).1 c he with ⟨_, rfl⟩ | ⟨c0, hf, rfl⟩
  · cases har
  · exact hta k c0 hf har

theorem bcU_entryOK (s : St O) (hta : TA s) (b : Bool) (chk : Complaint → Bool) : EntryOK (bcU (s.find s.me) b chk) := by
  intro c he har
  left
  rcases (bcU_cases _ b chk).1 c he with ⟨_, rfl⟩ | ⟨c0, hf, rfl⟩
  · cases har
  · exact hta _ c0 hf har

theorem bcU_x (s : St O) (hta : TA s) (b : Bool) (chk : Complaint → Bool) :
    ∀ a, (bcU (s.find s.me) b chk).x = some a → a ≠ 0 := by
  intro a he
  obtain ⟨c0, hf, har, rfl⟩ := (bcU_cases _ b chk).2 a he
  exact hta _ c0 hf har

theorem raU_entryOK (s : St O) (hwf : EntriesWF s) (k : Nat) (v : Bool) (chk : Complaint → Bool) (d m : Bool)
    (sc : Option Nat) (hsc : ∀ a, sc = some a → a ≠ 0) : EntryOK (raU (s.find k) v chk d m sc) := by
  intro c he har
  cases hf : s.find k with
  | none =>
    rw [hf] at he
    cases sc with
    | none => right; rfl
    | some a => unfold raU at he; simp only [] at he; cases he; left; exact hsc a rfl
  | some c0 =>
    rw [hf] at he
    by_cases har0 : c0.answerReceived = true
    · unfold raU at he; simp only [har0, if_true] at he; cases he
    · by_cases hr0 : c0.received = true
      · cases sc with
        | none => right; unfold raU; simp only [har0, hr0, if_true, Bool.false_eq_true, if_false]
        | some a =>
          unfold raU at he
          simp only [har0, hr0, if_true, Bool.false_eq_true, if_false] at he
          cases he; left; exact hsc a rfl
      · rcases hwf k c0 hf with h | h
        · exact absurd h hr0
        · exact absurd h har0

theorem raU_x (fc : Option Complaint) (v : Bool) (chk : Complaint → Bool) (d m : Bool) (sc : Option Nat)
    (hsc : ∀ a, sc = some a → a ≠ 0) : ∀ a, (raU fc v chk d m sc).x = some a → a ≠ 0 := by
  intro a he
  unfold raU at he
  cases fc with
  | none => cases sc <;> cases he
  | some c0 =>
    obtain ⟨r, ar, a0⟩ := c0
    cases ar
    · cases r
      · cases he
      · cases sc with
        | none => cases he
        | some a' =>
          change (if _ then some a' else none) = some a at he
          rw [Option.ite_none_right_eq_some] at he
          rw [← Option.some.inj he.2]; exact hsc a' rfl
    · cases he

theorem nz_bc (t : St O) (hta : TA t) : NZ (FvssQ.buildComplaint t).1 := by
  intro hd
  refine ⟨?_, Or.inr (Or.inr (ownRecv_bc t))⟩
  rw [bc_upd] at hd ⊢
  exact ta_applyUpd t hta _ _ (bcU_entryOK t hta _ _) hd

theorem parseA_sc (s : St O) (data : Bytes) (j : Nat) (sc : Option Nat) (hp : parseA s data = some (j, sc)) :
    sc = O.readScalar (data.drop 1) := by
  unfold parseA at hp
  split at hp
  · cases hp
  · split at hp
    · cases hp
    · cases hp; rfl

theorem classifyB_ans_parse (s : St O) (o : Nat) (m : Bytes) (j : Nat) (sc : Option Nat)
    (h : classifyB s o m = .ans j sc) : parseA s (m.drop 1) = some (j, sc) := by
  refine classifyB_cases (P := fun K => K = .ans j sc → parseA s (m.drop 1) = some (j, sc)) s o m
    (fun h => nomatch h) (fun _ h => nomatch h) (fun _ h => nomatch h) (fun _ _ _ _ _ _ h => nomatch h) ?_ h
  intro _ j' sc' hp h
  cases h; exact hp

theorem classifyB_ans_sc (hr : ReadsNonzero O) (s : St O) (o : Nat) (m : Bytes) (j : Nat) (sc : Option Nat)
    (h : classifyB s o m = .ans j sc) : ∀ a, sc = some a → a ≠ 0 := by
  intro a ha
  rw [parseA_sc s _ j sc (classifyB_ans_parse s o m j sc h)] at ha
  exact hr _ a ha

theorem parseShare_nz (hr : ReadsNonzero O) (d : Bytes) (x : Nat) (h : parseShare O d = some x) : x ≠ 0 := by
  unfold parseShare at h
  split at h
  · cases h
  · split at h
    · cases h
    · exact hr _ x h

/-- the scalar of an answer kind is non-zero (so of every classified delivery, `classify_knz`: it was read from the wire) -/
def KNZ : Kind → Prop
  | .ans _ sc => ∀ a, sc = some a → a ≠ 0
  | _ => True

theorem nz_congr {s t : St O} (h : NZ s) (hdq : s.disqualified = false) (hc : t.complaints = s.complaints)
    (hxs : XS s → XS t) : NZ t :=
  fun _ => ⟨fun k c hf => (h hdq).1 k c (by rw [← St.find_congr hc]; exact hf), hxs (h hdq).2⟩

theorem nz_interp (hr : ReadsNonzero O) (s : St O) (inv : Inv s) (h : NZ s) (hdq : s.disqualified = false) (k : Kind)
    (ok : KOK s k) (knz : KNZ k) : NZ (interp s k) := by
  have hta : TA s := (h hdq).1
  cases k with
  | noop => exact h
  | disq => exact nz_disq rfl
  | cmpl k =>
    have hk : k ≠ s.me := ok
    show NZ (rcOk s k)
    rw [rcOk_upd]
    refine nz_applyUpd h hdq k _ (rcU_entryOK s hta k) (fun a ha => ?_) (fun ho => ?_)
    · rw [rcU_x] at ha; cases ha
    · rw [ownRecv_applyUpd_other s k _ (fun e => hk e.symm)]; exact ho
  | ans j sc =>
    show NZ (raOk s j sc)
    rw [raOk_upd]
    exact nz_applyUpd h hdq j _ (raU_entryOK s inv.wf j _ _ _ _ sc knz) (raU_x _ _ _ _ _ sc knz)
      (fun ho => by rw [ownRecv_raOk]; exact ho)
  | vec d =>
    -- storing the vector touches neither the table nor the share
    exact rv_cases (P := fun r => NZ r.1) s s.dealer d (fun _ => h) (fun _ _ => h) (fun _ _ => nz_disq rfl)
      (fun _ _ _ => nz_disq rfl) (fun v _ _ _ _ => nz_bc (setVec s v) hta)
      (fun v _ _ _ => nz_congr h hdq rfl (fun hx => hx))
  | share d =>
    exact rs_cases (P := fun r => NZ r.1) s s.dealer d (fun _ => h) (fun _ _ => h) (fun _ => nz_bc (markX s) hta)
      (fun x _ _ _ => nz_bc (setX s x) hta)
      (fun x hp _ => nz_congr h hdq rfl (fun _ => Or.inr (Or.inl (parseShare_nz hr d x hp))))

theorem classify_knz (hr : ReadsNonzero O) (s : St O) (e : Dl) : KNZ (classify s e) := by
  cases e with
  | priv o m =>
    show KNZ (if s.me = o then .noop else if o = s.dealer then .share m else .noop)
    split
    · trivial
    · split <;> trivial
  | bcast o m =>
    show KNZ (classifyB s o m)
    cases hK : classifyB s o m with
    | ans j sc => exact classifyB_ans_sc hr s o m j sc hK
    | _ => trivial

theorem nz_step (hr : ReadsNonzero O) (s : St O) (inv : Inv s) (h : NZ s) (e : Dl) : NZ (step s e) := by
  rw [step_run s e inv.hme]
  unfold run
  by_cases hd : s.disqualified = true
  · rw [if_pos hd]; exact h
  · rw [if_neg hd]; exact nz_interp hr s inv h (by simpa using hd) _ (classify_src s e).2 (classify_knz hr s e)

theorem nz_runList (hr : ReadsNonzero O) (s : St O) (inv : Inv s) (h : NZ s) (l : List Dl) : NZ (runList s l) := by
  unfold runList
  induction l generalizing s with
  | nil => exact h
  | cons e t ih => exact ih (step s e) (inv_step s inv e) (nz_step hr s inv h e)

theorem nz_tstep (s : St O) (h : NZ s) : NZ (tstep s) := by
  refine tstep_cases (P := NZ) s ?_ ?_ ?_ ?_ ?_ ?_ ?_
  · intro hd _; exact nz_disq (s := stFlag s) hd
  · intro hd _; exact nz_disq (s := ctFlag s) hd
  · intro _ _ _; exact nz_disq rfl
  · intro hd _ _ _; exact nz_bc (stFlag s) (h hd).1
  · intro hd _ _ _; exact nz_congr h hd rfl (fun hx => hx)
  · intro _ _ _; exact nz_disq rfl
  · intro hd _ _; exact nz_congr h hd rfl (fun hx => hx)

theorem nz_fresh (size threshold me dealer : Nat) : NZ (fresh O size threshold me dealer) :=
  fun _ => ⟨fun k c hc => (by cases hc), Or.inl rfl⟩

theorem nz_final (hr : ReadsNonzero O) (s : St O) (inv : Inv s) (h : NZ s) (r1 r2 r3 : List Dl) :
    NZ (final s r1 r2 r3) := by
  have i1 := inv_tstep _ (inv_runList s inv r1)
  have i2 := inv_tstep _ (inv_runList _ i1 r2)
  exact nz_runList hr _ i2 (nz_tstep _ (nz_runList hr _ i1 (nz_tstep _ (nz_runList hr s inv h r1)) r2)) r3

theorem x_nonzero_at_end (s : St O) (hnz : NZ s) (hsc : SC s) (hst : s.sharesTimeout = true) (Yys : Bytes × List Bytes)
    (hp : pubRes s = some Yys) : s.x ≠ 0 := by
  unfold pubRes at hp
  by_cases hc : s.disqualified = true ∨ unanswered s = true
  · rw [if_pos hc] at hp; cases hp
  · have hdq : s.disqualified = false := by
      cases hd : s.disqualified with
      | false => rfl
      | true => exact absurd (Or.inl hd) hc
    have hun : unanswered s = false := by
      cases hu : unanswered s with
      | false => rfl
      | true => exact absurd (Or.inr hu) hc
    have late := hsc.late hdq hst
    by_cases ho : ownRecv s = true
    · -- the participant complained: the complaint was answered, the answer adopted
      unfold ownRecv at ho
      cases hf : s.find s.me with
      | none => rw [hf] at ho; cases ho
      | some c =>
        rw [hf] at ho
        change c.received = true at ho
        have hmem := St.mem_of_find hf
        have har : c.answerReceived = true := by
          cases ha : c.answerReceived with
          | true => rfl
          | false =>
            have : unanswered s = true := by
              unfold unanswered
              rw [List.any_eq_true]
              exact ⟨(s.me, c), hmem, by simp [ho, ha]⟩
            rw [this] at hun; cases hun
        rw [hsc.adopt hdq c ⟨hf, ho, har⟩]
        exact (hnz hdq).1 s.me c hf har
    · have ho' : ownRecv s = false := by simpa using ho
      rcases (hnz hdq).2 with a | a | a
      · rcases late.2 with l | ⟨c, hf, hr⟩
        · rw [l] at a; cases a
        · unfold ownRecv at ho'; rw [hf] at ho'; change c.received = false at ho'; rw [hr] at ho'; cases ho'
      · exact a
      · rw [a] at ho'; cases ho'

theorem final_st (s : St O) (inv : Inv s) (r1 r2 r3 : List Dl) : (final s r1 r2 r3).sharesTimeout = true := by
  unfold final
  have i1 := inv_runList s inv r1
  have j1 := inv_tstep _ i1
  have i2 := inv_runList _ j1 r2
  have j2 := inv_tstep _ i2
  rw [(runList_cfg_any _ r3).sharesTimeout]
  exact tstep_st _

theorem sc_final (s : St O) (h : SC s) (r1 r2 r3 : List Dl) : SC (final s r1 r2 r3) := by
  unfold final
  exact sc_runList _ (sc_tstep _ (sc_runList _ (sc_tstep _ (sc_runList _ h r1)) r2)) r3

theorem end_of_pubRes (hr : ReadsNonzero O) (size threshold me dealer : Nat) (hne : me ≠ dealer) (r1 r2 r3 : List Dl) :
    (pubRes (final (fresh O size threshold me dealer) r1 r2 r3) = none ∧
      exec (fresh O size threshold me dealer) r1 r2 r3 = .failure) ∨
    (∃ Y ys x, pubRes (final (fresh O size threshold me dealer) r1 r2 r3) = some (Y, ys) ∧ x ≠ 0 ∧
      exec (fresh O size threshold me dealer) r1 r2 r3 = .keys x Y ys) := by
  have hex : exec (fresh O size threshold me dealer) r1 r2 r3 = endRes (final (fresh O size threshold me dealer) r1 r2 r3) := rfl
  rw [hex, endRes_pubRes]
  cases hp : pubRes (final (fresh O size threshold me dealer) r1 r2 r3) with
  | none => left; exact ⟨rfl, rfl⟩
  | some Yys =>
    right
    have hx := x_nonzero_at_end _ (nz_final hr _ (inv_fresh size threshold me dealer hne) (nz_fresh size threshold me dealer) r1 r2 r3)
      (sc_final _ (sc_fresh size threshold me dealer hne) r1 r2 r3)
      (final_st _ (inv_fresh size threshold me dealer hne) r1 r2 r3) Yys hp
    refine ⟨Yys.1, Yys.2, _, rfl, hx, ?_⟩
    simp only []
    rw [if_neg hx]

/-- **C07, agreement on what `End` returns**: under the hypotheses of `agreement`, with wire scalars never zero
    (`readScalarFrStar`), either both honest participants get a DKG failure from `End`, or both get keys with the
    same group public key and the same vector of public key shares (and non-zero private shares) -/
theorem agreement_end (hr : ReadsNonzero O) (size threshold dealer ma mb : Nat) (hd : dealer < size) (hs : size ≤ 256)
    (hma : ma < size) (hmb : mb < size) (hmad : ma ≠ dealer) (hmbd : mb ≠ dealer) (hab : ma ≠ mb)
    (ra1 ra2 ra3 rb1 rb2 rb3 : List Dl)
    (ba1 : ∀ e ∈ ra1, e.sender < size) (ba2 : ∀ e ∈ ra2, e.sender < size) (ba3 : ∀ e ∈ ra3, e.sender < size)
    (bb1 : ∀ e ∈ rb1, e.sender < size) (bb2 : ∀ e ∈ rb2, e.sender < size) (bb3 : ∀ e ∈ rb3, e.sender < size)
    (n1 : Net ma mb ra1 rb1 (bR1 (fresh O size threshold ma dealer) ra1) (bR1 (fresh O size threshold mb dealer) rb1))
    (n2 : Net ma mb ra2 rb2 (bR2 (fresh O size threshold ma dealer) ra1 ra2) (bR2 (fresh O size threshold mb dealer) rb1 rb2))
    (n3 : Net ma mb ra3 rb3 (bR3 (fresh O size threshold ma dealer) ra1 ra2 ra3)
      (bR3 (fresh O size threshold mb dealer) rb1 rb2 rb3)) :
    (exec (fresh O size threshold ma dealer) ra1 ra2 ra3 = .failure ∧
      exec (fresh O size threshold mb dealer) rb1 rb2 rb3 = .failure) ∨
    (∃ Y ys xa xb, xa ≠ 0 ∧ xb ≠ 0 ∧ exec (fresh O size threshold ma dealer) ra1 ra2 ra3 = .keys xa Y ys ∧
      exec (fresh O size threshold mb dealer) rb1 rb2 rb3 = .keys xb Y ys) := by
  have hag := agreement size threshold dealer ma mb hd hs hma hmb hmad hmbd hab ra1 ra2 ra3 rb1 rb2 rb3
    ba1 ba2 ba3 bb1 bb2 bb3 n1 n2 n3
  rcases end_of_pubRes hr size threshold ma dealer hmad ra1 ra2 ra3 with ⟨pa, ea⟩ | ⟨Y, ys, xa, pa, hxa, ea⟩
  · rcases end_of_pubRes hr size threshold mb dealer hmbd rb1 rb2 rb3 with ⟨_, eb⟩ | ⟨Y, ys, xb, pb, _, _⟩
    · left; exact ⟨ea, eb⟩
    · rw [pa, pb] at hag; cases hag
  · rcases end_of_pubRes hr size threshold mb dealer hmbd rb1 rb2 rb3 with ⟨pb, _⟩ | ⟨Y', ys', xb, pb, hxb, eb⟩
    · rw [pa, pb] at hag; cases hag
    · rw [pa, pb] at hag
      have := Option.some.inj hag
      have h1 : Y = Y' := (Prod.mk.inj this).1
      have h2 : ys = ys' := (Prod.mk.inj this).2
      subst h1; subst h2
      right; exact ⟨Y, ys, xa, xb, hxa, hxb, ea, eb⟩

end Proofs.DkgAgree
