import Proofs.DkgNonzero
import Proofs.DkgBlame
import Proofs.DkgJoint
import Proofs.DkgHonest

/-! Agreement inside Joint-Feldman, instance by instance.

In Joint-Feldman every participant runs `n` Feldman-VSS-Qual instances and every broadcast is handed to all of them.
For the instance of a dealer `d`, a broadcast of another honest participant `A ≠ d` is *irrelevant* unless it is `A`'s
complaint against `d`: `A`'s own verification vector, its answers to complaints against itself, its complaints
against other dealers are all ignored by the instance (`irrelevant_noop`). Removing the irrelevant deliveries from a
schedule changes neither the state nor what the instance broadcasts (`filter_round`, `filter_exec`), so the
two-receiver theorem `Proofs.DkgAgree.pview_agree` applies to every instance of a Joint-Feldman execution whose dealer
is neither of the two participants, with the network hypothesis stated on the *full* broadcast streams
(`pview_agree_instance`, `agreement_instance`).

The rest of the file is what Joint `End` needs besides: honest broadcasts draw no blame in any instance
(`irrelevant_honest_noblame`, `run_noblame_joint`); the public part of the Joint result as a function of the public views
(`jpub`, `jres_jpub`); what a receiver holds of an honest dealer's instance (`honest_dealer_view`), and what the dealer
holds of its own (the invariant `DS`, `dealer_side_view`, `ds_after_start`). -/

namespace Proofs.DkgAgree
open Model Model.Dkg Proofs.DkgCommute
variable {O : Ops}

/-- a broadcast of participant `A` that is not `A`'s complaint against dealer `d` -/
def irrelevant (A d : Nat) : Dl → Bool
  | .bcast o m => o == A && m != cmplMsg d
  | .priv _ _ => false

theorem cmplMsg_of_parse (s : St O) (m : Bytes) (h0 : m.length ≠ 0) (ht : m.headD 0 = tagComplaint)
    (hp : parseC s (m.drop 1) = some s.dealer) : m = cmplMsg s.dealer := by
  unfold parseC at hp
  split at hp
  · cases hp
  · rename_i hl
    split at hp
    · cases hp
    · have hl' : (m.drop 1).length = 1 := by simpa using hl
      match m, h0, ht, hl', hp with
      | [a, b], _, ht, _, hp =>
        have ha : a = tagComplaint := ht
        have hb : b.toNat = s.dealer := by simpa using hp
        unfold cmplMsg
        rw [ha]
        congr 2
        rw [← hb]
        exact (UInt8.ofNat_toNat).symm

theorem irrelevant_noop (s : St O) (hme : s.me ≠ s.dealer) (A : Nat) (hAd : A ≠ s.dealer) (_hd : s.dealer < 256)
    (e : Dl) (h : irrelevant A s.dealer e = true) : step s e = s ∧ bcasts (stepOuts s e) = [] := by
  have hstep : step s e = s := by
    cases e with
    | priv o m => cases h
    | bcast o m =>
      obtain ⟨ho, hm⟩ := Bool.and_eq_true_iff.1 (show (o == A && m != cmplMsg s.dealer) = true from h)
      have ho : o = A := eq_of_beq ho
      have hm : m ≠ cmplMsg s.dealer := ne_of_beq_false (Bool.not_eq_true' _ ▸ hm)
      subst ho
      -- of the broadcasts of somebody else than the dealer only the complaint against the dealer is not a no-op
      have hk : classify s (.bcast o m) = .noop :=
        classifyB_cases (P := fun K => K = .noop) s o m rfl (fun e => absurd e hAd) (fun e => absurd e hAd)
          (fun _ _ h0 ht _ hp => absurd (cmplMsg_of_parse s m h0 ht hp) hm) (fun e => absurd e hAd)
      rw [step_run s _ hme, hk]
      unfold run
      split <;> rfl
  refine ⟨hstep, ?_⟩
  have g : Good s (step s e, stepOuts s e) := step_good s hme e
  unfold Good at g
  rw [g, hstep]
  cases ownRecv s <;> rfl

/-- drop the irrelevant broadcasts of `A` from a schedule -/
def relevantOnly (A d : Nat) (l : List Dl) : List Dl := l.filter (fun e => !irrelevant A d e)

theorem filter_round (s : St O) (inv : Inv s) (A : Nat) (hAd : A ≠ s.dealer) (hd : s.dealer < 256) (l : List Dl) :
    runList s (relevantOnly A s.dealer l) = runList s l ∧ roundOuts s (relevantOnly A s.dealer l) = roundOuts s l := by
  induction l generalizing s with
  | nil => exact ⟨rfl, rfl⟩
  | cons e t ih =>
    have c := (step_cfg_any s e).dealer
    have ih' := ih (step s e) (inv_step s inv e) (by rw [c]; exact hAd) (by rw [c]; exact hd)
    rw [c] at ih'
    unfold relevantOnly at *
    rw [List.filter_cons]
    by_cases hir : irrelevant A s.dealer e = true
    · obtain ⟨h1, h2⟩ := irrelevant_noop s inv.hme A hAd hd e hir
      simp only [hir, Bool.not_true, Bool.false_eq_true, if_false]
      rw [h1] at ih'
      refine ⟨?_, ?_⟩
      · show _ = runList (step s e) t
        rw [h1]; exact ih'.1
      · show _ = bcasts (stepOuts s e) ++ roundOuts (step s e) t
        rw [h2, h1, List.nil_append]; exact ih'.2
    · have hir' : irrelevant A s.dealer e = false := by simpa using hir
      simp only [hir', Bool.not_false, if_true]
      refine ⟨?_, ?_⟩
      · show runList (step s e) _ = runList (step s e) t
        exact ih'.1
      · show bcasts (stepOuts s e) ++ roundOuts (step s e) _ = bcasts (stepOuts s e) ++ roundOuts (step s e) t
        rw [ih'.2]

theorem filter_exec (s : St O) (inv : Inv s) (A : Nat) (hAd : A ≠ s.dealer) (hd : s.dealer < 256) (r1 r2 r3 : List Dl) :
    final s (relevantOnly A s.dealer r1) (relevantOnly A s.dealer r2) (relevantOnly A s.dealer r3) = final s r1 r2 r3 ∧
    bR1 s (relevantOnly A s.dealer r1) = bR1 s r1 ∧
    bR2 s (relevantOnly A s.dealer r1) (relevantOnly A s.dealer r2) = bR2 s r1 r2 ∧
    bR3 s (relevantOnly A s.dealer r1) (relevantOnly A s.dealer r2) (relevantOnly A s.dealer r3) = bR3 s r1 r2 r3 := by
  -- a round and the timeout after it lead to a state with the same dealer
  have next : ∀ (t : St O) (l : List Dl), Inv t → t.dealer = s.dealer →
      Inv (tstep (runList t l)) ∧ (tstep (runList t l)).dealer = s.dealer := fun t l i e =>
    ⟨inv_tstep _ (inv_runList t i l), ((tstep_dealer _).trans (runList_cfg_any t l).dealer).trans e⟩
  have f1 := filter_round s inv A hAd hd r1
  obtain ⟨j1, d1⟩ := next s r1 inv rfl
  have f2 := filter_round _ j1 A (by rw [d1]; exact hAd) (by rw [d1]; exact hd) r2
  obtain ⟨j2, d2⟩ := next _ r2 j1 d1
  have f3 := filter_round _ j2 A (by rw [d2]; exact hAd) (by rw [d2]; exact hd) r3
  rw [d1] at f2
  rw [d2] at f3
  unfold final bR1 bR2 bR3
  rw [f1.1, f1.2, f2.1, f2.2, f3.1, f3.2]
  exact ⟨rfl, rfl, rfl, rfl⟩

theorem stream_filter_other (A d : Nat) (l : List Dl) (c : Nat × Bool) (h : c ≠ (A, false)) :
    stream (relevantOnly A d l) c = stream l c := by
  unfold stream relevantOnly
  rw [List.filter_filter]
  apply List.filter_congr
  intro e _
  cases e with
  | priv o m => simp [irrelevant]
  | bcast o m =>
    by_cases ho : o = A
    · subst ho
      have : ((Dl.bcast o m).chan == c) = false := by
        simp only [Dl.chan, Dl.sender, Dl.isPriv, beq_eq_false_iff_ne, ne_eq]
        exact fun e => h e.symm
      simp [this]
    · have : (o == A) = false := by simpa using ho
      simp [irrelevant, this]

theorem stream_filter_self (A d : Nat) (l : List Dl) :
    stream (relevantOnly A d l) (A, false) = (stream l (A, false)).filter (fun e => !irrelevant A d e) := by
  unfold stream relevantOnly
  rw [List.filter_filter, List.filter_filter]
  apply List.filter_congr
  intro e _
  exact Bool.and_comm _ _

/-- **reliable broadcast and round synchrony for one round of Joint-Feldman, seen by the instances of dealer `d` at
    two honest participants `ma`, `mb`**: the streams are the *full* broadcast streams (every message goes to every
    instance); among what `mb` received from `ma`, the complaints against `d` are what `ma`'s instance broadcast -/
structure NetD (d ma mb : Nat) (ra rb : List Dl) (outA outB : List Bytes) : Prop where
  third : ∀ o, o ≠ ma → o ≠ mb → stream ra (o, false) = stream rb (o, false)
  a_to_b : (stream rb (ma, false)).filter (fun e => !irrelevant ma d e) = outA.map (Dl.bcast ma)
  b_to_a : (stream ra (mb, false)).filter (fun e => !irrelevant mb d e) = outB.map (Dl.bcast mb)

theorem net_of_netD {d ma mb : Nat} {ra rb : List Dl} {outA outB : List Bytes}
    (N : NetD d ma mb ra rb outA outB) : Net ma mb (relevantOnly mb d ra) (relevantOnly ma d rb) outA outB := by
  refine ⟨?_, ?_, ?_⟩
  · intro o h1 h2
    rw [stream_filter_other mb d ra _ (fun e => h2 (Prod.mk.inj e).1),
      stream_filter_other ma d rb _ (fun e => h1 (Prod.mk.inj e).1)]
    exact N.third o h1 h2
  · rw [stream_filter_self]; exact N.a_to_b
  · rw [stream_filter_self]; exact N.b_to_a

/-- `pview_agree` on the full broadcast streams of a Joint-Feldman execution (`NetD`) -/
theorem pview_agree_instance (size threshold dealer ma mb : Nat) (hd : dealer < size) (hs : size ≤ 256)
    (hma : ma < size) (hmb : mb < size) (hmad : ma ≠ dealer) (hmbd : mb ≠ dealer) (hab : ma ≠ mb)
    (ra1 ra2 ra3 rb1 rb2 rb3 : List Dl)
    (ba1 : ∀ e ∈ ra1, e.sender < size) (ba2 : ∀ e ∈ ra2, e.sender < size) (ba3 : ∀ e ∈ ra3, e.sender < size)
    (bb1 : ∀ e ∈ rb1, e.sender < size) (bb2 : ∀ e ∈ rb2, e.sender < size) (bb3 : ∀ e ∈ rb3, e.sender < size)
    (n1 : NetD dealer ma mb ra1 rb1 (bR1 (fresh O size threshold ma dealer) ra1) (bR1 (fresh O size threshold mb dealer) rb1))
    (n2 : NetD dealer ma mb ra2 rb2 (bR2 (fresh O size threshold ma dealer) ra1 ra2)
      (bR2 (fresh O size threshold mb dealer) rb1 rb2))
    (n3 : NetD dealer ma mb ra3 rb3 (bR3 (fresh O size threshold ma dealer) ra1 ra2 ra3)
      (bR3 (fresh O size threshold mb dealer) rb1 rb2 rb3)) :
    pview (final (fresh O size threshold ma dealer) ra1 ra2 ra3) =
      pview (final (fresh O size threshold mb dealer) rb1 rb2 rb3) := by
  have hd256 : dealer < 256 := by omega
  have fA := filter_exec (fresh O size threshold ma dealer) (inv_fresh size threshold ma dealer hmad) mb hmbd hd256 ra1 ra2 ra3
  have fB := filter_exec (fresh O size threshold mb dealer) (inv_fresh size threshold mb dealer hmbd) ma hmad hd256 rb1 rb2 rb3
  have sub : ∀ (A : Nat) (l : List Dl), (∀ e ∈ l, e.sender < size) → ∀ e ∈ relevantOnly A dealer l, e.sender < size :=
    fun A l h e he => h e (List.mem_filter.1 he).1
  rw [← fA.1, ← fB.1]
  exact pview_agree (ainv_fresh hmad hma) (ainv_fresh hmbd hmb) (zinv_freshZ threshold hd hs).1
    (zinv_freshZ threshold hd hs).2 (pubEq_fresh size threshold ma dealer) (pubEq_fresh size threshold mb dealer) hab
    _ _ _ _ _ _ (sub mb ra1 ba1) (sub mb ra2 ba2) (sub mb ra3 ba3) (sub ma rb1 bb1) (sub ma rb2 bb2) (sub ma rb3 bb3)
    (by rw [fA.2.1, fB.2.1]; exact net_of_netD n1) (by rw [fA.2.2.1, fB.2.2.1]; exact net_of_netD n2)
    (by rw [fA.2.2.2, fB.2.2.2]; exact net_of_netD n3)

/-- **agreement on every instance of a Joint-Feldman execution whose dealer is neither of the two participants**
    (the dealer may be honest or not): the two honest participants end the instance with the same public result
    — the same verdict on the dealer and, if it is qualified, the same contribution to the group key and to the
    public key shares — for every behaviour of everybody else and every delivery order. -/
theorem agreement_instance (size threshold dealer ma mb : Nat) (hd : dealer < size) (hs : size ≤ 256)
    (hma : ma < size) (hmb : mb < size) (hmad : ma ≠ dealer) (hmbd : mb ≠ dealer) (hab : ma ≠ mb)
    (ra1 ra2 ra3 rb1 rb2 rb3 : List Dl)
    (ba1 : ∀ e ∈ ra1, e.sender < size) (ba2 : ∀ e ∈ ra2, e.sender < size) (ba3 : ∀ e ∈ ra3, e.sender < size)
    (bb1 : ∀ e ∈ rb1, e.sender < size) (bb2 : ∀ e ∈ rb2, e.sender < size) (bb3 : ∀ e ∈ rb3, e.sender < size)
    (n1 : NetD dealer ma mb ra1 rb1 (bR1 (fresh O size threshold ma dealer) ra1) (bR1 (fresh O size threshold mb dealer) rb1))
    (n2 : NetD dealer ma mb ra2 rb2 (bR2 (fresh O size threshold ma dealer) ra1 ra2)
      (bR2 (fresh O size threshold mb dealer) rb1 rb2))
    (n3 : NetD dealer ma mb ra3 rb3 (bR3 (fresh O size threshold ma dealer) ra1 ra2 ra3)
      (bR3 (fresh O size threshold mb dealer) rb1 rb2 rb3)) :
    pubRes (final (fresh O size threshold ma dealer) ra1 ra2 ra3) =
      pubRes (final (fresh O size threshold mb dealer) rb1 rb2 rb3) := by
  rw [pubRes_pview, pubRes_pview]
  exact congrArg keysOf <| pview_agree_instance size threshold dealer ma mb hd hs hma hmb hmad hmbd hab ra1 ra2 ra3 rb1 rb2 rb3
    ba1 ba2 ba3 bb1 bb2 bb3 n1 n2 n3

/-- the broadcasts an honest participant of Joint-Feldman makes: its verification vector, answers to complaints
    against itself, complaints against a dealer -/
def honestMsg (size : Nat) (m : Bytes) : Bool :=
  m.headD 0 == tagVerifVec || m.headD 0 == tagAnswer ||
  (m.headD 0 == tagComplaint && m.length == 2 && decide ((m.getD 1 0).toNat < size))

/-- `hct`: an honest participant complains before the second timeout only; a later complaint is flagged -/
theorem irrelevant_honest_noblame (s : St O) (A : Nat) (hAd : A ≠ s.dealer) (m : Bytes) (hm : m.length ≠ 0)
    (hh : honestMsg s.size m = true) (hir : m ≠ cmplMsg s.dealer) (_hd : s.dealer < 256)
    (hct : m.headD 0 = tagComplaint → s.complaintsTimeout = false) :
    NoBlame A (stepOuts s (.bcast A m)) := by
  show NoBlame A (FvssQ.bcastBody s A m).2
  unfold FvssQ.bcastBody
  by_cases hme : s.me = A
  · rw [if_pos hme]; rfl
  rw [if_neg hme]
  by_cases hdq : s.disqualified = true
  · rw [if_pos hdq]; rfl
  rw [if_neg hdq]
  dsimp only
  rw [if_neg hm]
  by_cases h1 : m.headD 0 = tagVerifVec
  · rw [if_pos h1, rv_pair, if_pos hAd]; rfl
  rw [if_neg h1]
  by_cases h2 : m.headD 0 = tagComplaint
  · -- a complaint against another dealer, or `m` would be the complaint against this one
    rw [if_pos h2, rc_pair, hct h2, if_neg Bool.false_ne_true]
    cases hp : parseC s (m.drop 1) with
    | none => dsimp only; rw [if_neg hAd]; rfl
    | some ce =>
      have hce : ce ≠ s.dealer := fun e => hir (cmplMsg_of_parse s m hm h2 (by rw [hp, e]))
      dsimp only
      rw [if_pos (Or.inr hce)]; rfl
  · have h3 : m.headD 0 = tagAnswer := by
      unfold honestMsg at hh
      rw [beq_false_of_ne h1, beq_false_of_ne h2, Bool.false_or, Bool.false_and, Bool.false_and, Bool.or_false] at hh
      exact eq_of_beq hh
    rw [if_neg h2, if_pos h3, ra_pair, if_pos hAd]; rfl

/-- the broadcasts of `A` in a schedule are honest ones, and its complaints come before the second timeout -/
def HonestFrom (A size : Nat) (lateOK : Bool) (l : List Dl) : Prop :=
  ∀ m, Dl.bcast A m ∈ l → m.length ≠ 0 ∧ honestMsg size m = true ∧ (m.headD 0 = tagComplaint → lateOK = false)

theorem run_noblame_joint (s : St O) (inv : Inv s) (A : Nat) (hA : A ≠ s.dealer) (hAme : A ≠ s.me) (hd : s.dealer < 256)
    (l : List Dl) (hon : HonestFrom A s.size s.complaintsTimeout l)
    (hl : stream (relevantOnly A s.dealer l) (A, false) = [] ∨
      (stream (relevantOnly A s.dealer l) (A, false) = [zCmpl A s.dealer] ∧ recvAt s A = false ∧ s.complaintsTimeout = false)) :
    NoBlame A (runOuts s l) := by
  -- the filtered schedule draws no blame (`run_noblame`); each dropped delivery draws none and changes nothing
  have key : ∀ (l : List Dl) (s : St O), Inv s → A ≠ s.dealer → s.dealer < 256 → HonestFrom A s.size s.complaintsTimeout l →
      NoBlame A (runOuts s (relevantOnly A s.dealer l)) → NoBlame A (runOuts s l) := by
    intro l
    induction l with
    | nil => intro s _ _ _ _ h; exact h
    | cons e t ih =>
      intro s inv hA hd hon h
      have c := step_cfg_any s e
      have hon' : HonestFrom A (step s e).size (step s e).complaintsTimeout t := by
        rw [c.size, c.complaintsTimeout]
        intro m hm; exact hon m (List.mem_cons_of_mem _ hm)
      unfold relevantOnly at h
      rw [List.filter_cons] at h
      show NoBlame A (stepOuts s e ++ runOuts (step s e) t)
      by_cases hir : irrelevant A s.dealer e = true
      · simp only [hir, Bool.not_true, Bool.false_eq_true, if_false] at h
        obtain ⟨h1, _⟩ := irrelevant_noop s inv.hme A hA hd e hir
        have rest := ih (step s e) (inv_step s inv e) (by rw [c.dealer]; exact hA) (by rw [c.dealer]; exact hd) hon'
          (by rw [c.dealer, h1]; exact h)
        refine NoBlame.append ?_ rest
        cases e with
        | priv o m => cases hir
        | bcast o m =>
          obtain ⟨ho, hm⟩ := Bool.and_eq_true_iff.1 (show (o == A && m != cmplMsg s.dealer) = true from hir)
          have ho : o = A := eq_of_beq ho
          have hm : m ≠ cmplMsg s.dealer := ne_of_beq_false (Bool.not_eq_true' _ ▸ hm)
          subst ho
          obtain ⟨g1, g2, g3⟩ := hon m (List.mem_cons_self)
          exact irrelevant_honest_noblame s o hA m g1 g2 hm hd (fun ht => by
            cases hc : s.complaintsTimeout with
            | false => rfl
            | true => rw [hc] at g3; exact absurd (g3 ht) (by decide))
      · have hir' : irrelevant A s.dealer e = false := by simpa using hir
        simp only [hir', Bool.not_false, if_true] at h
        have h' : NoBlame A (stepOuts s e ++ runOuts (step s e) (relevantOnly A s.dealer t)) := h
        unfold NoBlame at h' ⊢
        rw [List.all_append] at h' ⊢
        rw [Bool.and_eq_true] at h' ⊢
        refine ⟨h'.1, ?_⟩
        have := ih (step s e) (inv_step s inv e) (by rw [c.dealer]; exact hA) (by rw [c.dealer]; exact hd) hon'
          (by rw [c.dealer]; exact h'.2)
        exact this
  exact key l s inv hA hd hon (run_noblame s inv A hA hAme (relevantOnly A s.dealer l) hl).1

/-- the public part of what Joint `End` computes from its instances: `none` = failure, else the group key and the
    vector of public key shares -/
def jpub (size threshold : Nat) (L : List (St O)) : Option (Bytes × List Bytes) :=
  let pv := L.map pview
  let disq := (pv.filter (·.1)).length
  if disq > threshold ∨ size - disq ≤ threshold then none
  else match O.sumVecs (pv.filterMap (·.2)) with
    | none => none
    | some v => if O.groupKeyIsIdentity v then none else some (O.groupKey v, O.pubShares v)

theorem jpub_of_pviews (size threshold : Nat) (LA LB : List (St O)) (h : LA.map pview = LB.map pview) :
    jpub size threshold LA = jpub size threshold LB := by
  unfold jpub
  rw [h]

theorem pview_count (L : List (St O)) :
    ((L.map pview).filter (·.1)).length =
      ((L.map (fun s => (FvssQ.settle s).1)).filter (·.disqualified)).length := by
  induction L with
  | nil => rfl
  | cons s t ih =>
    simp only [List.map_cons, List.filter_cons]
    have h1 : (pview s).1 = (FvssQ.settle s).1.disqualified := rfl
    rw [h1]
    cases (FvssQ.settle s).1.disqualified <;> simp [ih]

theorem pview_vecs (L : List (St O)) :
    (L.map pview).filterMap (·.2) =
      ((L.map (fun s => (FvssQ.settle s).1)).filter (fun s => !s.disqualified)).filterMap (·.vA) := by
  induction L with
  | nil => rfl
  | cons s t ih =>
    simp only [List.map_cons, List.filter_cons, List.filterMap_cons]
    have h2 : (pview s).2 = if (FvssQ.settle s).1.disqualified then none else (FvssQ.settle s).1.vA := rfl
    rw [h2]
    cases hd : (FvssQ.settle s).1.disqualified
    · simp only [Bool.false_eq_true, if_false, Bool.not_false, if_true, List.filterMap_cons]
      cases (FvssQ.settle s).1.vA <;> simp [ih]
    · simp [ih]

/-- the participant's own combined private share: the sum of its shares in the qualified instances -/
def jshare (L : List (St O)) : Nat :=
  ((L.map (fun s => (FvssQ.settle s).1)).filter (fun s => !s.disqualified)).foldl (fun acc s => O.addScalar acc s.x) 0

/-- **Joint `End` returns the public result together with the participant's own combined share** (tie between
    `jpub` and the model of `JointFeldman.End`) -/
theorem jres_jpub (size threshold : Nat) (L : List (St O)) :
    jres size threshold L =
      match jpub size threshold L with
      | none => .failure
      | some Yys => if jshare L = 0 then .failure else .keys (jshare L) Yys.1 Yys.2 := by
  unfold jres jpub jshare
  simp only []
  rw [pview_count, pview_vecs]
  split
  · rfl
  · cases O.sumVecs (((L.map fun s => (FvssQ.settle s).1).filter fun s => !s.disqualified).filterMap (·.vA)) with
    | none => rfl
    | some v =>
      simp only []
      by_cases hx : (((L.map fun s => (FvssQ.settle s).1).filter fun s => !s.disqualified).foldl
          (fun acc s => O.addScalar acc s.x) 0) = 0
      · rw [if_pos hx]
        by_cases hi : O.groupKeyIsIdentity v = true
        · rw [if_pos hi]
        · rw [if_neg hi]
          show Res.failure = if _ = 0 then Res.failure else _
          rw [if_pos hx]
      · rw [if_neg hx]
        by_cases hi : O.groupKeyIsIdentity v = true
        · rw [if_pos hi, if_pos hi]
        · rw [if_neg hi, if_neg hi]
          show _ = if _ = 0 then Res.failure else _
          rw [if_neg hx]

theorem tstep_first (s : St O) (hd : s.disqualified = false) (hst : s.sharesTimeout = false) (hv : s.vAReceived = true)
    (hx : s.xReceived = true) : tstep s = stFlag s := by
  rw [tstep_eq, hd, hst, hv, hx]; rfl

theorem tstep_second (s : St O) (hd : s.disqualified = false) (hst : s.sharesTimeout = true)
    (hl : ¬ s.complaints.length > s.threshold) : tstep s = ctFlag s := by
  rw [tstep_eq, hd, hst, if_neg hl]; rfl

theorem pview_answered {s : St O} {v : O.Vec} (hd : s.disqualified = false) (hv : s.vA = some v)
    (ha : ∀ kc ∈ s.complaints, kc.2.received = true → kc.2.answerReceived = true) : pview s = (false, some v) := by
  rw [pview_eq, hd, (unanswered_eq_false_iff s).2 ha, hv]; rfl

/-- **what a receiver holds of an honest dealer's instance at `End`**: under the hypotheses of
    `honest_run` (Proofs/DkgHonest) the dealer is qualified and the stored vector is the dealer's -/
theorem honest_dealer_view (H : Honest O) (K : Finset Nat) (s0 : St O) (h0 : HD H s0)
    (hst0 : s0.sharesTimeout = false) (hct0 : s0.complaintsTimeout = false) (hK : K.card ≤ s0.threshold)
    (hk0 : keysIn K s0) (r1 r2 r3 : List Dl)
    (ok1 : RoundOK' H K s0 false r1) (ok2 : RoundOK' H K s0 false r2) (ok3 : RoundOK' H K s0 true r3)
    (hvec : ∃ e ∈ r1, ∃ d, ∀ t, CfgCT s0 false t → classify t e = .vec d)
    (hshare : ∃ e ∈ r1, ∃ d, ∀ t, CfgCT s0 false t → classify t e = .share d)
    (hans : ∀ k ∈ K, ∃ a, (∃ e ∈ r1, ∀ t, CfgCT s0 false t → classify t e = .ans k (some a)) ∨
      (∃ e ∈ r2, ∀ t, CfgCT s0 false t → classify t e = .ans k (some a)) ∨
      (∃ e ∈ r3, ∀ t, CfgCT s0 true t → classify t e = .ans k (some a))) :
    pview (final s0 r1 r2 r3) = (false, some H.v0) := by
  have R := honest_run H K s0 h0 hst0 hct0 hK hk0 r1 r2 r3 ok1 ok2 ok3 hvec hshare hans
  unfold final
  rw [R.tstep1, R.tstep2, pview_eq, R.hd3.ndq, show unanswered _ = false from R.answered, R.hd3.vec R.vec]
  rfl

/-- the dealer's own instance: it holds its vector and its share, has answered every complaint, and only
    participants of `K` have complained -/
structure DS (K : Finset Nat) (v : O.Vec) (s : St O) : Prop where
  isDealer : s.me = s.dealer
  ndq : s.disqualified = false
  vA : s.vA = some v
  vAR : s.vAReceived = true
  xR : s.xReceived = true
  answered : ∀ kc ∈ s.complaints, kc.2.answerReceived = true
  keys : keysIn K s
  nodup : KeysNodup s

theorem ds_congr {K : Finset Nat} {v : O.Vec} {s t : St O} (h : DS K v s) (h1 : t.me = s.me) (h2 : t.dealer = s.dealer)
    (h3 : t.disqualified = s.disqualified) (h4 : t.vA = s.vA) (h5 : t.vAReceived = s.vAReceived)
    (h6 : t.xReceived = s.xReceived) (h7 : t.complaints = s.complaints) : DS K v t := by
  refine ⟨by rw [h1, h2]; exact h.isDealer, by rw [h3]; exact h.ndq, by rw [h4]; exact h.vA, by rw [h5]; exact h.vAR,
    by rw [h6]; exact h.xR, by rw [h7]; exact h.answered, ?_, by unfold KeysNodup; rw [h7]; exact h.nodup⟩
  intro k c hf
  apply h.keys k c
  unfold St.find at hf ⊢; rw [← h7]; exact hf

theorem ds_setC {K : Finset Nat} {v : O.Vec} {s : St O} (h : DS K v s) (k : Nat) (c : Complaint) (hk : k ∈ K)
    (hc : c.answerReceived = true) : DS K v (s.setC k c) := by
  refine ⟨h.isDealer, h.ndq, h.vA, h.vAR, h.xR, ?_, ?_, keys_setC s k c h.nodup⟩
  · intro kc hkc
    change kc ∈ (k, c) :: s.complaints.filter _ at hkc
    rcases List.mem_cons.1 hkc with e | e
    · rw [e]; exact hc
    · exact h.answered kc (List.mem_filter.1 e).1
  · intro j c' hf
    rw [find_setC] at hf
    split at hf
    · rename_i hj; rw [hj]; exact hk
    · exact h.keys j c' hf

theorem ds_step {K : Finset Nat} {v : O.Vec} {s : St O} (h : DS K v s) (e : Dl)
    (hK : ∀ o m, e = .bcast o m → m.headD 0 = tagComplaint → o ∈ K) :
    DS K v (step s e) ∧ (step s e).threshold = s.threshold := by
  rw [dealer_step s h.isDealer h.ndq e]
  refine ⟨?_, applyUpd_threshold s _ _⟩
  cases e with
  | priv o m => exact h
  | bcast o m =>
    -- a new complainer is registered and answered at once; the others have been answered already
    refine dealerUB_cases (P := fun u => DS K v (applyUpd s o u)) s o m h (fun ht => ?_)
    have hoK := hK o m rfl ht
    unfold dU
    cases hf : s.find o with
    | none => exact ds_setC h o _ hoK rfl
    | some c =>
      dsimp only
      split
      · exact h
      · exact ds_setC h o _ hoK (h.answered (o, c) (St.mem_of_find hf))

theorem ds_runList {K : Finset Nat} {v : O.Vec} (l : List Dl) (s : St O) (h : DS K v s)
    (hK : ∀ o m, Dl.bcast o m ∈ l → m.headD 0 = tagComplaint → o ∈ K) :
    DS K v (runList s l) ∧ (runList s l).threshold = s.threshold := by
  induction l generalizing s with
  | nil => exact ⟨h, rfl⟩
  | cons e t ih =>
    have st := ds_step h e (fun o m he ht => hK o m (by rw [← he]; exact List.mem_cons_self) ht)
    have r := ih (step s e) st.1 (fun o m hm ht => hK o m (List.mem_cons_of_mem _ hm) ht)
    exact ⟨r.1, r.2.trans st.2⟩

theorem ds_tstep {K : Finset Nat} {v : O.Vec} {s : St O} (h : DS K v s) (hK : K.card ≤ s.threshold) :
    DS K v (tstep s) ∧ (tstep s).threshold = s.threshold := by
  refine ⟨?_, tstep_threshold s⟩
  cases hst : s.sharesTimeout
  · rw [tstep_first s h.ndq hst h.vAR h.xR]; exact ds_congr h rfl rfl rfl rfl rfl rfl rfl
  · rw [tstep_second s h.ndq hst (by have := length_le_card K s h.nodup h.keys; omega)]
    exact ds_congr h rfl rfl rfl rfl rfl rfl rfl

/-- **the dealer's own view of its instance at `End`**: qualified, with its own vector — as long as at most `t`
    participants (the set `K`) ever complain against it -/
theorem dealer_side_view (K : Finset Nat) (v : O.Vec) (s0 : St O) (h0 : DS K v s0) (hK : K.card ≤ s0.threshold)
    (r1 r2 r3 : List Dl)
    (k1 : ∀ o m, Dl.bcast o m ∈ r1 → m.headD 0 = tagComplaint → o ∈ K)
    (k2 : ∀ o m, Dl.bcast o m ∈ r2 → m.headD 0 = tagComplaint → o ∈ K)
    (k3 : ∀ o m, Dl.bcast o m ∈ r3 → m.headD 0 = tagComplaint → o ∈ K) :
    pview (final s0 r1 r2 r3) = (false, some v) := by
  have d1 := ds_runList r1 s0 h0 k1
  have t1 := ds_tstep d1.1 (by rw [d1.2]; exact hK)
  have d2 := ds_runList r2 _ t1.1 k2
  have t2 := ds_tstep d2.1 (by rw [d2.2, t1.2, d1.2]; exact hK)
  have d3 := (ds_runList r3 _ t2.1 k3).1
  exact pview_answered d3.ndq d3.vA (fun kc hkc _ => d3.answered kc hkc)

theorem start_ok_eq (size threshold me : Nat) (seed : Bytes) (s' : St O) (outs : List Out)
    (h : Dkg.start ({ size := size, threshold := threshold, me := me, dealer := me } : St O) seed = (s', outs, .ok)) :
    ∃ a x, s' =
      ({ size := size, threshold := threshold, me := me, dealer := me, running := true, a := a,
         vA := some (O.vecOfPoly size a), x := x, vAReceived := true, xReceived := true, validKey := true } : St O) := by
  unfold Dkg.start Dkg.startBody Dkg.generateShares at h
  simp only [Bool.false_eq_true, if_false, if_true] at h
  cases hg : O.genPoly seed threshold with
  | none => rw [hg] at h; cases h
  | some a =>
    rw [hg] at h
    dsimp only at h
    cases hl : shareLoop O a me size 1 [] 0 with
    | none => rw [hl] at h; cases h
    | some r => rw [hl] at h; exact ⟨a, r.2, (Prod.mk.inj h).1.symm⟩

theorem ds_after_start (K : Finset Nat) (size threshold me : Nat) (seed : Bytes) (s' : St O) (outs : List Out)
    (h : Dkg.start ({ size := size, threshold := threshold, me := me, dealer := me } : St O) seed = (s', outs, .ok)) :
    ∃ a, DS K (O.vecOfPoly size a) s' := by
  obtain ⟨a, x, rfl⟩ := start_ok_eq size threshold me seed s' outs h
  exact ⟨a, rfl, rfl, rfl, rfl, rfl, fun _ hkc => (nomatch hkc), fun k c hc => (nomatch hc), List.nodup_nil⟩

end Proofs.DkgAgree
