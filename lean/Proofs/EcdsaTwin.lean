import Proofs.EcdsaExact

/-! The twin `(r, n - s)` of a signature the executable ECDSA model accepts is accepted as well (it is the signature with
the nonce `n - k`): malleability of ECDSA, stated for the model's byte-level verification. -/

namespace Proofs.EcdsaTwin
open Model Model.Curve Proofs.CurveGroup Proofs.CurveInst Proofs.EcdsaModel WeierstrassCurve.Affine

section neg
variable (p : ℕ) [Fact p.Prime] (a b : ℕ) (hΔ : (W p a b).Δ ≠ 0)

include hΔ in
theorem neg_point {x y : ℕ} (hv : Valid p a b (some (x, y))) :
    Valid p a b (some (x, Fp.neg p y)) ∧
      toPoint p a b (some (x, Fp.neg p y)) = - toPoint p a b (some (x, y)) := by
  have hns : (W p a b).Nonsingular (x : ZMod p) (y : ZMod p) :=
    ((W p a b).equation_iff_nonsingular_of_Δ_ne_zero hΔ).1 ((onCurve_iff p a b hv.1 hv.2.1).1 hv.2.2)
  have hneg : (W p a b).Nonsingular (x : ZMod p) ((Fp.neg p y : ℕ) : ZMod p) := by
    rw [Fp.c_neg, ← negY_eq p a b (x : ZMod p) (y : ZMod p)]
    exact (nonsingular_neg ..).2 hns
  have hlt : Fp.neg p y < p := by unfold Fp.neg; exact Nat.mod_lt _ (Fact.out : Nat.Prime p).pos
  refine ⟨⟨hv.1, hlt, (onCurve_iff p a b hv.1 hlt).2 hneg.1⟩, ?_⟩
  rw [toPoint_some p a b hneg, toPoint_some p a b hns, Point.neg_some]
  exact some_congr p a b hneg rfl (by rw [Fp.c_neg, negY_eq]) _

end neg

variable {S : Ecdsa.CurveSpec} {a b : ℕ} [Fact (Nat.Prime S.p)] [hn : Fact (Nat.Prime S.n)]

theorem sign_twin (G : Good S a b) (d k : ℕ) (_hk0 : 0 < k) (hk : k < S.n) (h sig : Bytes)
    (hs : Ecdsa.signWith S d k h = some sig) :
    Ecdsa.signWith S d (S.n - k) h =
      some (natBE 32 (beNat (sig.take 32)) ++ natBE 32 (S.n - beNat (sig.drop 32))) := by
  obtain ⟨x, y, hR, hr0, hs0, rfl⟩ := (signWith_eq_some_iff S d k h sig).1 hs
  have lt : ∀ m, m % S.n < 2 ^ 256 := fun m => (Nat.mod_lt _ G.n_pos).trans G.n256
  obtain ⟨_, br, bs⟩ := parse_sig (s := sigS S d k (x % S.n) h) (lt x) (lt _)
  rw [br, bs]
  -- the ephemeral point of the nonce `n - k` is the negative: same abscissa
  have np := neg_point S.p a b G.hΔ (hR ▸ G.valid_mul k (hk.trans G.n_bits) S.g G.hg)
  have hR' : Curve.mul S.C (S.n - k) S.g = some (x, Fp.neg S.p y) := by
    rw [← ofPoint_toPoint S.p a b G.hΔ _ np.1, np.2, ← hR, G.mul _ ((Nat.sub_le _ _).trans_lt G.n_bits) S.g G.hg,
      G.mul k (hk.trans G.n_bits) S.g G.hg, toPoint_ofPoint]
    refine congrArg _ (eq_neg_of_add_eq_zero_left ?_)
    rw [← add_nsmul, Nat.sub_add_cancel hk.le, G.order]
  -- the scalar: `1 / (n - k) = - 1 / k`
  have lt' : ∀ k', sigS S d k' (x % S.n) h < S.n := fun _ => Nat.mod_lt _ G.n_pos
  have hs' : sigS S d (S.n - k) (x % S.n) h = S.n - sigS S d k (x % S.n) h := by
    have hc : ((sigS S d (S.n - k) (x % S.n) h : ℕ) : ZMod S.n) = ((S.n - sigS S d k (x % S.n) h : ℕ) : ZMod S.n) := by
      rw [Nat.cast_sub (lt' k).le]
      unfold sigS
      simp only [ZMod.natCast_mod, Nat.cast_mul, Proofs.PowMod.powMod_inv S.n G.n2 G.n_bits, Nat.cast_sub hk.le,
        ZMod.natCast_self, zero_sub, inv_neg, neg_mul]
    exact ((ZMod.natCast_eq_natCast_iff _ _ _).1 hc).eq_of_lt_of_lt (lt' _)
      (Nat.sub_lt G.n_pos (Nat.pos_of_ne_zero hs0))
  have := lt' k
  exact (signWith_eq_some_iff S d (S.n - k) h _).2 ⟨x, Fp.neg S.p y, hR', hr0, by rw [hs']; omega, by rw [hs']⟩

/-- **the twin of an accepted signature is accepted** (executable model, both curves via `Good`) -/
theorem verify_twin (G : Good S a b) (d : ℕ) (hd : d < S.n) (h sig : Bytes) (Q : ℕ × ℕ)
    (hQ : Ecdsa.publicKeyOf S d = some Q) (hv : Ecdsa.verifyHash S Q h sig = true) :
    Ecdsa.verifyHash S Q h (natBE 32 (beNat (sig.take 32)) ++ natBE 32 (S.n - beNat (sig.drop 32))) = true := by
  obtain ⟨k, hk0, hk, hs⟩ := Proofs.EcdsaExact.verify_sign G d hd h sig Q hQ hv
  exact sign_verify G d (S.n - k) hd (by omega) h _ Q hQ (sign_twin G d k hk0 hk h sig hs)

end Proofs.EcdsaTwin
#print axioms Proofs.EcdsaTwin.verify_twin
