import Proofs.CurveGroup
import Proofs.Primes
import Proofs.E1Codec
import Model.Bls
import Model.Ecdsa

/-! Instances of `Proofs.CurveGroup` for the three curves of the model over a prime field: BLS12-381 `E1`
(`y² = x³ + 4`), P-256 and secp256k1. -/

namespace Proofs.CurveInst
open Model Model.Curve Proofs.CurveGroup

theorem W_Δ (p : ℕ) [Fact p.Prime] (a b : ℕ) : (W p a b).Δ = -(((16 * (4 * a ^ 3 + 27 * b ^ 2) : ℕ)) : ZMod p) := by
  unfold WeierstrassCurve.Δ WeierstrassCurve.b₂ WeierstrassCurve.b₄ WeierstrassCurve.b₆ WeierstrassCurve.b₈
  simp only [W]
  push_cast
  ring

theorem Δ_ne_zero (p : ℕ) [Fact p.Prime] (a b : ℕ) (h : (16 * (4 * a ^ 3 + 27 * b ^ 2)) % p ≠ 0) : (W p a b).Δ ≠ 0 := by
  rw [W_Δ, neg_ne_zero]
  intro h0
  rw [ZMod.natCast_eq_zero_iff] at h0
  exact h (Nat.mod_eq_zero_of_dvd h0)

instance fact_bls_p : Fact (Nat.Prime Bls.p) := ⟨Proofs.Primes.prime_bls_p⟩

theorem bls_E1 : Bls.E1 = C Bls.p 0 4 := rfl

theorem bls_Δ : (W Bls.p 0 4).Δ ≠ 0 := Δ_ne_zero Bls.p 0 4 (by decide +kernel)

theorem valid_of_codec (P : Bls.P1) (h : Proofs.E1Codec.Valid P) : Valid Bls.p 0 4 P := by
  match P, h with
  | none, _ => trivial
  | some (x, y), h =>
    obtain ⟨hx, hy, he⟩ := h x y rfl
    refine ⟨hx, hy, ?_⟩
    show (Fp.mul Bls.p y y == Fp.add Bls.p (Fp.add Bls.p (Fp.mul Bls.p (Fp.mul Bls.p x x) x) (Fp.mul Bls.p 0 x)) 4) = true
    rw [beq_iff_eq]
    unfold Fp.mul Fp.add
    rw [he]
    simp [Nat.add_mod, Nat.mul_mod]

instance fact_p256 : Fact (Nat.Prime Ecdsa.p256P) := ⟨by
  have : Ecdsa.p256P = 115792089210356248762697446949407573530086143415290314195533631308867097853951 := by decide +kernel
  rw [this]; exact Proofs.Primes.prime_p256_p⟩

instance fact_k256 : Fact (Nat.Prime Ecdsa.k256P) := ⟨by
  have : Ecdsa.k256P = 115792089237316195423570985008687907853269984665640564039457584007908834671663 := by decide +kernel
  rw [this]; exact Proofs.Primes.prime_k256_p⟩

def p256a : ℕ := Ecdsa.p256P - 3
def p256b : ℕ := 0x5ac635d8aa3a93e7b3ebbd55769886bc651d06b0cc53b0f63bce3c3e27d2604b

theorem p256_C : Ecdsa.p256.C = C Ecdsa.p256P p256a p256b := rfl
theorem k256_C : Ecdsa.k256.C = C Ecdsa.k256P 0 7 := rfl

theorem p256_Δ : (W Ecdsa.p256P p256a p256b).Δ ≠ 0 := Δ_ne_zero _ _ _ (by decide +kernel)
theorem k256_Δ : (W Ecdsa.k256P 0 7).Δ ≠ 0 := Δ_ne_zero _ _ _ (by decide +kernel)
theorem p256_two : 2 < Ecdsa.p256P := by decide +kernel
theorem k256_two : 2 < Ecdsa.k256P := by decide +kernel
theorem p256_bits : Ecdsa.p256P < 2 ^ 800 := by decide +kernel
theorem k256_bits : Ecdsa.k256P < 2 ^ 800 := by decide +kernel

theorem p256_g_valid : Valid Ecdsa.p256P p256a p256b Ecdsa.p256.g := by
  refine ⟨by decide +kernel, by decide +kernel, by decide +kernel⟩
theorem k256_g_valid : Valid Ecdsa.k256P 0 7 Ecdsa.k256.g := by
  refine ⟨by decide +kernel, by decide +kernel, by decide +kernel⟩
theorem bls_g1_valid : Valid Bls.p 0 4 Bls.g1 := by
  refine ⟨by decide +kernel, by decide +kernel, by decide +kernel⟩

end Proofs.CurveInst
