import Proofs.CurveRep
import Proofs.CurveInst

/-! The bridge theorems for the curve `Bls.E1` of the model, the bounds on the group order `Bls.r` the proofs about the
model use, the agreement of the validity predicate of the signature codec with that of the bridge, and the subgroup test
`Bls.inG1` as `r`-torsion in the group of the curve. (`Proofs/BlsPoints2.lean` has the same for `Bls.E2`.) -/

namespace Model.Bls

theorem r_lt : r < 2 ^ 256 := by decide +kernel
theorem r_gt : 255 < r := by decide +kernel
theorem r_two : 2 < r := lt_trans (by decide) r_gt
theorem r_bits : r < 2 ^ 800 := by decide +kernel
theorem r_pos : 0 < r := (Fact.out : Nat.Prime r).pos
theorem val_bits (z : ZMod r) : z.val < 2 ^ 800 := (ZMod.val_lt z).trans r_bits

end Model.Bls

namespace Proofs.CurveInst
open Model Model.Curve Proofs.CurveGroup Proofs.BlsConcrete

theorem mul_E1 (k : ℕ) (hk : k < 2 ^ 800) (P : Bls.P1) (hP : Valid Bls.p 0 4 P) :
    Curve.mul Bls.E1 k P = ofPoint Bls.p 0 4 (k • toPoint Bls.p 0 4 P) :=
  mul_ofPoint Bls.p 0 4 bls_Δ E1Codec.p_two E1Codec.p_bits k hk P hP

theorem sum_E1 (ps : List Bls.P1) (hps : ∀ P ∈ ps, Valid Bls.p 0 4 P) :
    Curve.sum Bls.E1 ps = ofPoint Bls.p 0 4 (ps.map (toPoint Bls.p 0 4)).sum :=
  sum_ofPoint Bls.p 0 4 bls_Δ E1Codec.p_two E1Codec.p_bits ps hps

theorem codec_of_valid (P : Bls.P1) (h : Valid Bls.p 0 4 P) : Proofs.E1Codec.Valid P := by
  intro x y hP
  subst hP
  obtain ⟨hx, hy, hc⟩ := h
  have hc' : (Fp.mul Bls.p y y == Fp.add Bls.p (Fp.add Bls.p (Fp.mul Bls.p (Fp.mul Bls.p x x) x) (Fp.mul Bls.p 0 x)) 4) = true := hc
  rw [beq_iff_eq] at hc'
  unfold Fp.mul Fp.add at hc'
  refine ⟨hx, hy, ?_⟩
  rw [hc']
  simp only [Nat.zero_mul, Nat.zero_mod, Nat.add_zero, Nat.mod_mod, Nat.mod_add_mod]

theorem valid_iff_codec (P : Bls.P1) : Proofs.E1Codec.Valid P ↔ Valid Bls.p 0 4 P :=
  ⟨valid_of_codec P, codec_of_valid P⟩

theorem inG1_iff (P : Bls.P1) (hP : Valid Bls.p 0 4 P) : Bls.inG1 P = true ↔ Bls.r • toPoint Bls.p 0 4 P = 0 := by
  unfold Bls.inG1
  rw [mul_E1 Bls.r Bls.r_bits P hP, Option.isNone_iff_eq_none, ofPoint_eq_none]

end Proofs.CurveInst
