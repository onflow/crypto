import Mathlib.Data.Nat.ModEq
import Mathlib.Data.ZMod.Basic
import Mathlib.FieldTheory.Finite.Basic
import Mathlib.Tactic.Ring
import Model.Field

/-! `powMod` is modular exponentiation (for exponents below 2^800), and with exponent `p - 2` it is the
field inverse; `powModB` computes the same in fewer steps, for certificates checked by the kernel. -/

namespace Proofs.PowMod
open Model

theorem powModAux_modEq (m : Nat) (fuel a e acc : Nat) (he : e < 2 ^ fuel) :
    powModAux m fuel a e acc ≡ acc * a ^ e [MOD m] := by
  induction fuel generalizing a e acc with
  | zero => rw [Nat.lt_one_iff.1 he, pow_zero, mul_one]; rfl
  | succ fuel ih =>
    unfold powModAux
    split
    · next h0 => rw [h0, pow_zero, mul_one]
    · -- one bit of the exponent: `acc' ≡ acc · a^(e%2)`, then the invariant for `a²` and `e/2`
      have hacc : (if e % 2 = 1 then acc * a % m else acc) ≡ acc * a ^ (e % 2) [MOD m] := by
        rcases Nat.mod_two_eq_zero_or_one e with h | h <;> rw [h]
        · rw [if_neg (by decide), pow_zero, mul_one]
        · rw [if_pos rfl, pow_one]; exact Nat.mod_modEq _ _
      refine (ih _ _ _ (by rw [pow_succ] at he; omega)).trans ?_
      have := hacc.mul ((Nat.mod_modEq (a * a) m).pow (e / 2))
      rwa [show (a * a) ^ (e / 2) = a ^ (2 * (e / 2)) by rw [pow_mul, pow_two], mul_assoc, ← pow_add,
        Nat.mod_add_div] at this

theorem powModAux_lt (m : Nat) (hm : 0 < m) (fuel a e acc : Nat) (hacc : acc < m) :
    powModAux m fuel a e acc < m := by
  induction fuel generalizing a e acc with
  | zero => simpa [powModAux]
  | succ fuel ih =>
    unfold powModAux
    split
    · exact hacc
    · apply ih
      split
      · exact Nat.mod_lt _ hm
      · exact hacc

theorem powMod_eq (a e m : Nat) (hm : 1 < m) (he : e < 2 ^ 800) : powMod a e m = a ^ e % m := by
  unfold powMod
  have h1 := powModAux_modEq m 800 (a % m) e (1 % m) he
  have h2 := powModAux_lt m (by omega) 800 (a % m) e (1 % m) (Nat.mod_lt _ (by omega))
  have h3 : 1 % m * (a % m) ^ e ≡ a ^ e [MOD m] := by
    have := ((Nat.mod_modEq 1 m).mul ((Nat.mod_modEq a m).pow e))
    simpa using this
  have := h1.trans h3
  rw [Nat.ModEq, Nat.mod_eq_of_lt h2] at this
  exact this

theorem powMod_cast (a e m : Nat) (hm : 1 < m) (he : e < 2 ^ 800) :
    ((powMod a e m : Nat) : ZMod m) = (a : ZMod m) ^ e := by
  rw [powMod_eq a e m hm he, ZMod.natCast_mod, Nat.cast_pow]

theorem pow_mod_eq_one_iff {a e m : ℕ} (hm : 1 < m) : a ^ e % m = 1 ↔ (a : ZMod m) ^ e = 1 := by
  rw [← Nat.cast_pow, ← Nat.cast_one (R := ZMod m), ZMod.natCast_eq_natCast_iff, Nat.ModEq, Nat.mod_eq_of_lt hm]

/-- `a ^ e % m`, a byte of the exponent at a time: a step is a few big-number operations for the kernel -/
def powModB (m a : ℕ) : ℕ → ℕ → ℕ
  | 0, _ => 1 % m
  | fuel + 1, e => if e = 0 then 1 % m else powModB m a fuel (e / 256) ^ 256 % m * (a ^ (e % 256) % m) % m

theorem powModB_eq (m a : ℕ) : ∀ fuel e, e ≤ fuel → powModB m a fuel e = a ^ e % m
  | 0, e, h => by rw [Nat.le_zero.1 h]; rfl
  | fuel + 1, e, h => by
    unfold powModB
    split
    · next h0 => rw [h0, pow_zero]
    · rw [powModB_eq m a fuel (e / 256) (by omega), ← Nat.pow_mod, ← Nat.mul_mod, ← pow_mul, ← pow_add,
        Nat.div_add_mod' e 256]

/-- both sides are 0 at `a = 0` (`p > 2`) -/
theorem pow_sub_two_eq_inv (p : Nat) [hp : Fact p.Prime] (h2 : 2 < p) (a : ZMod p) : a ^ (p - 2) = a⁻¹ := by
  by_cases ha : a = 0
  · subst ha
    rw [inv_zero, zero_pow (by omega)]
  · have h1 : a ^ (p - 1) = 1 := ZMod.pow_card_sub_one_eq_one ha
    have : a ^ (p - 2) * a = 1 := by
      rw [← pow_succ]
      have : p - 2 + 1 = p - 1 := by omega
      rw [this, h1]
    exact eq_inv_of_mul_eq_one_left this

theorem powMod_inv (p : Nat) [hp : Fact p.Prime] (h2 : 2 < p) (hb : p < 2 ^ 800) (a : Nat) :
    ((powMod a (p - 2) p : Nat) : ZMod p) = (a : ZMod p)⁻¹ := by
  rw [powMod_cast a (p - 2) p (by omega) (by omega), pow_sub_two_eq_inv p h2]

end Proofs.PowMod
