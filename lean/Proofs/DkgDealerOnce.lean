import Proofs.DkgAnswer
import Proofs.DkgOnce
import Proofs.DkgJointEnd

/-! The dealer's instance seen from the complaint table, for `Props/C08Dealer.lean`: `Reg` (the complaint of `k` is
registered; `reg_iff`, `reg_tstep`), what the dealer's instance does with a delivery (`dealer_bcast_cases`,
`dealer_priv_noop`, `evStep_dealer`; `rc_bcast`: a broadcast out of `receiveComplaint` means a new entry and its answer),
and `answersTo`, the number of complaint deliveries from `k` that made the instance broadcast. -/

namespace Props.C08
open Model Model.Dkg Proofs.DkgCommute Proofs.DkgAgree

variable {O : Ops}

/-- the complaint of `k` is registered as received -/
def Reg (s : St O) (k : Nat) : Prop := ∃ c, s.find k = some c ∧ c.received = true

theorem reg_iff (s : St O) (k : Nat) : Reg s k ↔ recvAt s k = true := by
  unfold Reg recvAt
  cases s.find k with
  | none => exact ⟨(fun ⟨_, h, _⟩ => nomatch h), (fun h => nomatch h)⟩
  | some c => exact ⟨(fun ⟨_, h, hr⟩ => by cases h; exact hr), (fun h => ⟨c, rfl, h⟩)⟩

theorem reg_congr (s t : St O) (k : Nat) (hc : t.complaints = s.complaints) (h : Reg s k) : Reg t k :=
  (reg_iff t k).2 ((recvAt_congr k hc).trans ((reg_iff s k).1 h))

theorem rc_bcast (s : St O) (o : Nat) (d m : Bytes) (h : Out.bcast m ∈ (FvssQ.receiveComplaint s o d).2) :
    s.find o = none ∧ FvssQ.receiveComplaint s o d = FvssQ.buildAnswer (s.setC o fresh) o := by
  revert h
  exact rc_cases (P := fun r => Out.bcast m ∈ r.2 → s.find o = none ∧ r = FvssQ.buildAnswer (s.setC o fresh) o) s o d
    (fun _ h => by simp at h) (fun h => nomatch h) (fun _ h => by simp at h) (fun _ _ hf _ _ => ⟨hf, rfl⟩)
    (fun _ _ _ _ h => nomatch h) (fun _ _ _ h => by simp at h) (fun _ _ _ _ _ _ h => by split at h <;> simp at h)
    (fun _ _ _ h => nomatch h)

def isBcast : Out → Bool
  | .bcast _ => true
  | _ => false

/-- over a history of complaint deliveries `(origin, data)`: how many deliveries from `k` made the instance broadcast -/
def answersTo (k : Nat) : St O → List (Nat × Bytes) → Nat
  | _, [] => 0
  | s, (o, d) :: r =>
    (if o = k ∧ (FvssQ.receiveComplaint s o d).2.any isBcast then 1 else 0) +
      answersTo k (FvssQ.receiveComplaint s o d).1 r

theorem any_isBcast (l : List Out) : l.any isBcast = true ↔ ∃ m, Out.bcast m ∈ l := by
  constructor
  · intro h
    obtain ⟨x, hx, hb⟩ := List.any_eq_true.mp h
    cases x <;> simp [isBcast] at hb
    exact ⟨_, hx⟩
  · rintro ⟨m, hm⟩
    exact List.any_eq_true.mpr ⟨_, hm, rfl⟩

theorem dealer_bcast_cases (s : St O) (hmd : s.me = s.dealer) (o : Nat) (m : Bytes) :
    FvssQ.bcastBody s o m = FvssQ.receiveComplaint s o (m.drop 1) ∨
      ((FvssQ.bcastBody s o m).1.complaints = s.complaints ∧ ∀ x, Out.bcast x ∉ (FvssQ.bcastBody s o m).2) := by
  have hod : s.me ≠ o → o ≠ s.dealer := fun ho h => ho (hmd.trans h.symm)
  refine bcastBody_cases (P := fun r => r = FvssQ.receiveComplaint s o (m.drop 1) ∨
    (r.1.complaints = s.complaints ∧ ∀ x, Out.bcast x ∉ r.2)) s o m (fun _ => Or.inr (by simp)) (fun ho _ => Or.inr ?_)
    (fun ho _ => Or.inr ?_) (fun _ _ _ => Or.inl rfl) (fun ho _ => Or.inr ?_)
  · rw [if_neg (hod ho)]; simp
  · rw [rv_pair, if_pos (hod ho)]; simp
  · rw [ra_pair, if_pos (hod ho)]; simp

theorem dealer_priv_noop (s : St O) (hmd : s.me = s.dealer) (o : Nat) (m : Bytes) :
    FvssQ.privBody s o m = (s, []) :=
  privBody_cases (P := fun r => r = (s, [])) s o m (fun _ => rfl)
    (fun ho => by rw [rs_pair, if_pos (fun h => ho (hmd.trans h.symm))])

theorem reg_tstep (s : St O) (k : Nat) (h : Reg s k) : Reg (tstep s) k :=
  (reg_iff _ k).2 ((timeout_marks s).keep k ((reg_iff s k).1 h))

theorem evStep_dealer (s : St O) (hmd : s.me = s.dealer) (ev : Ev) : (evStep s ev).me = (evStep s ev).dealer := by
  rw [(ev_me_dealer s ev).1, (ev_me_dealer s ev).2]; exact hmd

end Props.C08
