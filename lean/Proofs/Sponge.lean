import Model.Sponge

/-! Lemmas for C13: the Go `write` loop over any split of the input equals block-by-block absorption. -/

namespace Model.Sponge

variable {St : Type}

/-- `Absorbs a m a' t`: absorbing `m` from state `a` block by block leaves state `a'` and the
    unabsorbed tail `t` (shorter than the rate). -/
inductive Absorbs (absorb : St → Bytes → St) (rate : Nat) : St → Bytes → St → Bytes → Prop
  | done (a m) : m.length < rate → Absorbs absorb rate a m a m
  | step (a b m a' t) : b.length = rate → Absorbs absorb rate (absorb a b) m a' t →
      Absorbs absorb rate a (b ++ m) a' t

theorem Absorbs.tail_lt {absorb : St → Bytes → St} {rate a m a' t}
    (h : Absorbs absorb rate a m a' t) : t.length < rate := by
  induction h with
  | done a m h => exact h
  | step a b m a' t hb _ ih => exact ih

theorem Absorbs.append {absorb : St → Bytes → St} {rate a m a' t p a'' t'}
    (h : Absorbs absorb rate a m a' t) (h2 : Absorbs absorb rate a' (t ++ p) a'' t') :
    Absorbs absorb rate a (m ++ p) a'' t' := by
  induction h with
  | done a m _ => exact h2
  | step a b m a1 t1 hb _ ih =>
    rw [List.append_assoc]
    exact Absorbs.step a b (m ++ p) a'' t' hb (ih h2)

/-- `Absorbs` is the graph of `absorbAll` -/
theorem Absorbs.eq_absorbAll {absorb : St → Bytes → St} {rate a m a' t} (hr : 0 < rate)
    (h : Absorbs absorb rate a m a' t) : ∀ fuel, m.length < fuel →
    absorbAll absorb rate fuel a m = (a', t) := by
  induction h with
  | done a m hlt =>
    intro fuel hf
    cases fuel with
    | zero => omega
    | succ f => simp [absorbAll, hlt]
  | step a b m a' t hb _ ih =>
    intro fuel hf
    cases fuel with
    | zero => omega
    | succ f =>
      simp only [absorbAll]
      have hlen : ¬ (b ++ m).length < rate := by simp [hb]
      rw [if_neg hlen]
      have h1 : (b ++ m).take rate = b := by rw [← hb, List.take_left]
      have h2 : (b ++ m).drop rate = m := by rw [← hb, List.drop_left]
      rw [h1, h2]
      apply ih
      simp [List.length_append] at hf
      omega

def absorbBuf (P : Params St) (s : State St) (q : Bytes) : State St :=
  if (s.buf ++ q).length = P.rate then { s with a := P.absorb s.a (s.buf ++ q), buf := [] }
  else { s with buf := s.buf ++ q }

theorem absorbBuf_isNil (P : Params St) (s : State St) (q : Bytes) : (absorbBuf P s q).isNil = s.isNil := by
  unfold absorbBuf
  split <;> rfl

theorem absorbBuf_repr (P : Params St) (hr : 0 < P.rate) {a0 : St} {s : State St} {m : Bytes} (q : Bytes)
    (h : Absorbs P.absorb P.rate a0 m s.a s.buf) (hq : (s.buf ++ q).length ≤ P.rate) :
    Absorbs P.absorb P.rate a0 (m ++ q) (absorbBuf P s q).a (absorbBuf P s q).buf := by
  apply h.append
  unfold absorbBuf
  split
  · next hfull =>
    simpa using Absorbs.step s.a _ [] _ _ hfull (Absorbs.done (absorb := P.absorb) _ [] (by simpa using hr))
  · next hnot => exact Absorbs.done _ _ (by omega)

/-- both paths of the loop are `absorbBuf` on the bytes that fit: the fast path is the case of an empty buffer and a
full block -/
theorem writeLoop_succ (P : Params St) (fuel : Nat) (s : State St) (p : Bytes) (hp : p.length ≠ 0) :
    writeLoop P (fuel + 1) s p =
      writeLoop P fuel (absorbBuf P s (p.take (min (P.rate - s.buf.length) p.length)))
        (p.drop (min (P.rate - s.buf.length) p.length)) := by
  rw [writeLoop, if_neg hp]
  split
  · next hfast =>
    obtain ⟨a, buf, isNil⟩ := s
    obtain rfl : buf = [] := List.eq_nil_of_length_eq_zero hfast.1
    simp [absorbBuf, hfast.2]
  · rfl

theorem writeLoop_isNil (P : Params St) : ∀ fuel (s : State St) (p : Bytes),
    (writeLoop P fuel s p).isNil = s.isNil := by
  intro fuel
  induction fuel with
  | zero => intro s p; rfl
  | succ n ih =>
    intro s p
    by_cases hp : p.length = 0
    · rw [writeLoop, if_pos hp]
    · rw [writeLoop_succ P n s p hp, ih, absorbBuf_isNil]

theorem writeLoop_repr (P : Params St) (hr : 0 < P.rate) (a0 : St) :
    ∀ fuel (s : State St) (m p : Bytes), p.length < fuel → Absorbs P.absorb P.rate a0 m s.a s.buf →
      Absorbs P.absorb P.rate a0 (m ++ p) (writeLoop P fuel s p).a (writeLoop P fuel s p).buf := by
  intro fuel
  induction fuel with
  | zero => intro s m p h; omega
  | succ n ih =>
    intro s m p hlt hrep
    have hb := hrep.tail_lt
    by_cases hp : p.length = 0
    · rw [writeLoop, if_pos hp]
      simpa [List.eq_nil_of_length_eq_zero hp] using hrep
    · rw [writeLoop_succ P n s p hp]
      have := ih _ (m ++ p.take (min (P.rate - s.buf.length) p.length)) (p.drop (min (P.rate - s.buf.length) p.length))
        (by simp [List.length_drop]; omega) (absorbBuf_repr P hr _ hrep (by simp [List.length_take]; omega))
      simpa [List.append_assoc] using this

theorem write_repr (P : Params St) (hr : 0 < P.rate) (a0 : St) (s : State St) (m p : Bytes)
    (hnil : s.isNil = false) (h : Absorbs P.absorb P.rate a0 m s.a s.buf) :
    Absorbs P.absorb P.rate a0 (m ++ p) (write P s p).a (write P s p).buf ∧ (write P s p).isNil = false := by
  unfold write
  simp only [hnil, Bool.false_eq_true, ↓reduceIte]
  exact ⟨writeLoop_repr P hr a0 _ s m p (by omega) h, by rw [writeLoop_isNil]; exact hnil⟩

/-- any way of cutting the message into `Write` calls leaves the state that absorbing the whole
    message leaves -/
theorem writes_repr (P : Params St) (hr : 0 < P.rate) (a0 : St) (chunks : List Bytes) :
    ∀ (s : State St) (m : Bytes), s.isNil = false → Absorbs P.absorb P.rate a0 m s.a s.buf →
      Absorbs P.absorb P.rate a0 (m ++ chunks.flatten) (chunks.foldl (write P) s).a (chunks.foldl (write P) s).buf
      ∧ (chunks.foldl (write P) s).isNil = false := by
  induction chunks with
  | nil => intro s m hn h; simpa using ⟨h, hn⟩
  | cons c cs ih =>
    intro s m hn h
    have h1 := write_repr P hr a0 s m c hn h
    have := ih _ _ h1.2 h1.1
    simpa [List.append_assoc] using this

end Model.Sponge
