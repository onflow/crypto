import Mathlib.Data.ZMod.Basic
import Mathlib.Algebra.Module.LinearMap.Defs
import Mathlib.LinearAlgebra.BilinearMap
import Mathlib.Algebra.Field.ZMod
import Mathlib.Algebra.Module.Torsion.Field

/-! Abstract pairing setting and the control flow of bls.go / bls_core.c over it.

The cryptographic setting is a *structure*, not an axiom: every theorem is universally quantified over
`PairingGroups r` (groups, bilinear non-degenerate pairing, the curve `E1` containing `G1` as the image of
`ι`), over the hash-to-curve function `H` and over a `Codec` carrying the codec laws. -/

abbrev Bytes := List UInt8

structure PairingGroups (r : ℕ) [Fact r.Prime] where
  E1 : Type
  G1 : Type
  G2 : Type
  GT : Type
  [instE1 : AddCommGroup E1] [instG1 : AddCommGroup G1] [instG2 : AddCommGroup G2] [instGT : AddCommGroup GT]
  [modG1 : Module (ZMod r) G1] [modG2 : Module (ZMod r) G2] [modGT : Module (ZMod r) GT]
  /-- inclusion of the prime-order subgroup into the curve -/
  ι : G1 →+ E1
  ι_inj : Function.Injective ι
  /-- `E1_in_G1` together with the pre-image it licenses -/
  toG1 : E1 → Option G1
  toG1_iff : ∀ x s, toG1 x = some s ↔ ι s = x
  e : G1 →ₗ[ZMod r] G2 →ₗ[ZMod r] GT
  g2 : G2
  nondeg_g2 : ∀ a : G1, e a g2 = 0 → a = 0
  [decG2 : DecidableEq G2] [decGT : DecidableEq GT]

attribute [instance] PairingGroups.instE1 PairingGroups.instG1 PairingGroups.instG2 PairingGroups.instGT
  PairingGroups.modG1 PairingGroups.modG2 PairingGroups.modGT PairingGroups.decG2 PairingGroups.decGT

variable {r : ℕ} [Fact r.Prime] (P : PairingGroups r)

/-- serialization of E1 points (`E1_read_bytes` / `E1_write_bytes`) with the laws C05 is about -/
structure Codec where
  decode : Bytes → Option P.E1
  encode : P.E1 → Bytes
  dec_enc : ∀ x, decode (encode x) = some x
  enc_dec : ∀ b x, decode b = some x → encode x = b
  len : ∀ b x, decode b = some x → b.length = 48

variable {P}

theorem PairingGroups.toG1_ι (s : P.G1) : P.toG1 (P.ι s) = some s := (P.toG1_iff _ _).2 rfl

theorem PairingGroups.e_smul_g2 (a : P.G1) (c : ZMod r) : P.e a (c • P.g2) = P.e (c • a) P.g2 :=
  ((P.e a).map_smul c P.g2).trans (P.e.map_smul₂ c a P.g2).symm

theorem PairingGroups.e_g2_inj {a b : P.G1} : P.e a P.g2 = P.e b P.g2 ↔ a = b :=
  ((injective_iff_map_eq_zero (P.e.flip P.g2)).2 P.nondeg_g2).eq_iff

theorem PairingGroups.e_neg_add_eq_zero (s : P.G1) (q : P.G2) (t : P.GT) : P.e s (-q) + t = 0 ↔ P.e s q = t := by
  rw [map_neg, neg_add_eq_zero]

theorem Codec.length_encode (C : Codec P) (x : P.E1) : (C.encode x).length = 48 := C.len _ _ (C.dec_enc x)

theorem Codec.encode_injective (C : Codec P) : Function.Injective C.encode := fun x y h =>
  Option.some.inj (by rw [← C.dec_enc x, h, C.dec_enc])

theorem Codec.encode_ι_inj (C : Codec P) {s t : P.G1} : C.encode (P.ι s) = C.encode (P.ι t) ↔ s = t :=
  (C.encode_injective.comp P.ι_inj).eq_iff

theorem Codec.decode_toG1_iff (C : Codec P) (sig : Bytes) (s : P.G1) :
    (∃ x, C.decode sig = some x ∧ P.toG1 x = some s) ↔ sig = C.encode (P.ι s) := by
  constructor
  · rintro ⟨x, hd, ht⟩; rw [(P.toG1_iff x s).1 ht, C.enc_dec sig x hd]
  · rintro rfl; exact ⟨_, C.dec_enc _, P.toG1_ι s⟩

/-- the two-pairing check of `bls_verify`: e(s, -g2) · e(h, pk) = 1 -/
def pairingCheck (pk : P.G2) (s h : P.G1) : Bool :=
  decide (P.e s (-P.g2) + P.e h pk = 0)

theorem pairingCheck_true_iff (pk : P.G2) (s h : P.G1) : pairingCheck pk s h = true ↔ P.e s P.g2 = P.e h pk :=
  decide_eq_true_iff.trans (P.e_neg_add_eq_zero s _ _)

theorem pairingCheck_iff (sk : ZMod r) (s h : P.G1) :
    pairingCheck (sk • P.g2) s h = true ↔ s = sk • h := by
  rw [pairingCheck_true_iff, P.e_smul_g2]
  exact P.e_g2_inj

/-! ### bls.go: Sign / Verify -/

inductive Err | nilHasher | hasherSize | notBLSKey | emptyList | invalidInputs | invalidSignature
deriving DecidableEq, Repr

/-- a `hash.Hasher` as far as BLS uses it -/
structure Hasher where
  size : Nat
  compute : Bytes → Bytes

/-- `checkBLSHasher` -/
def checkHasher (h : Option Hasher) : Except Err Hasher :=
  match h with
  | none => .error .nilHasher
  | some h => if h.size ≠ 128 then .error .hasherSize else .ok h

/-- control flow of `pubKeyBLSBLS12381.Verify` + `bls_verify` once the hasher output is mapped to G1 by `H` -/
def verifyCore (C : Codec P) (pk : P.G2) (sig : Bytes) (h : P.G1) : Bool :=
  if sig.length ≠ 48 then false
  else if pk = 0 then false                      -- identity public key
  else match C.decode sig with                    -- E1_read_bytes
    | none => false
    | some x => match P.toG1 x with               -- E1_in_G1
      | none => false
      | some s => pairingCheck pk s h

def verify (C : Codec P) (H : Bytes → P.G1) (pk : P.G2) (sig data : Bytes) (hasher : Option Hasher) :
    Except Err Bool :=
  match checkHasher hasher with
  | .error e => .error e
  | .ok k => .ok (verifyCore C pk sig (H (k.compute data)))

def signCore (C : Codec P) (sk : ZMod r) (h : P.G1) : Bytes := C.encode (P.ι (sk • h))

def sign (C : Codec P) (H : Bytes → P.G1) (sk : ZMod r) (data : Bytes) (hasher : Option Hasher) :
    Except Err Bytes :=
  match checkHasher hasher with
  | .error e => .error e
  | .ok k => .ok (signCore C sk (H (k.compute data)))

theorem checkHasher_some {k : Hasher} (hk : k.size = 128) : checkHasher (some k) = .ok k :=
  if_neg (not_not.2 hk)

theorem verify_some (C : Codec P) (H : Bytes → P.G1) (pk : P.G2) (sig data : Bytes) {k : Hasher} (hk : k.size = 128) :
    verify C H pk sig data (some k) = .ok (verifyCore C pk sig (H (k.compute data))) := by
  unfold verify; rw [checkHasher_some hk]

theorem sign_some (C : Codec P) (H : Bytes → P.G1) (sk : ZMod r) (data : Bytes) {k : Hasher} (hk : k.size = 128) :
    sign C H sk data (some k) = .ok (signCore C sk (H (k.compute data))) := by
  unfold sign; rw [checkHasher_some hk]

theorem signCore_inj (C : Codec P) {sk sk' : ZMod r} {h h' : P.G1} :
    signCore C sk h = signCore C sk' h' ↔ sk • h = sk' • h' := C.encode_ι_inj

theorem verifyCore_true_iff (C : Codec P) (pk : P.G2) (sig : Bytes) (h : P.G1) :
    verifyCore C pk sig h = true ↔ pk ≠ 0 ∧ ∃ s : P.G1, sig = C.encode (P.ι s) ∧ P.e s P.g2 = P.e h pk := by
  unfold verifyCore
  constructor
  · intro hv
    split at hv; · cases hv
    split at hv; · cases hv
    split at hv; · cases hv
    split at hv; · cases hv
    next _ hpk _ x hd _ s ht =>
    exact ⟨hpk, s, (C.decode_toG1_iff sig s).1 ⟨x, hd, ht⟩, (pairingCheck_true_iff pk s h).1 hv⟩
  · rintro ⟨hpk, s, rfl, he⟩
    rw [if_neg (not_not.2 (C.length_encode _)), if_neg hpk, C.dec_enc]
    simp only [P.toG1_ι]
    exact (pairingCheck_true_iff pk s h).2 he

/-- **the acceptance theorem**: under `sk • g2` with `sk ≠ 0`, exactly one byte string verifies -/
theorem verifyCore_iff (C : Codec P) (sk : ZMod r) (hsk : sk ≠ 0) (hg : P.g2 ≠ 0) (sig : Bytes) (h : P.G1) :
    verifyCore C (sk • P.g2) sig h = true ↔ sig = signCore C sk h := by
  unfold signCore
  rw [verifyCore_true_iff, and_iff_right (smul_ne_zero hsk hg)]
  simp only [P.e_smul_g2, P.e_g2_inj, exists_eq_right]

/-- verification under the identity key is false for every signature -/
theorem verifyCore_identity_key (C : Codec P) (sig : Bytes) (h : P.G1) : verifyCore C 0 sig h = false :=
  Bool.eq_false_iff.2 fun hv => ((verifyCore_true_iff C 0 sig h).1 hv).1 rfl
