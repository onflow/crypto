import Proofs.AbsMany
import Mathlib.Tactic.Abel

/-! `BatchVerifyBLSSignaturesOneMessage` (bls_multisig.go) and `bls_batch_verify` / `build_tree` /
`bls_batch_verify_tree` (bls_core.c) over the abstract pairing setting.

The random coefficients are a universally quantified vector; the tree split is a parameter
(`split len` = length of the left part, any value with `0 < split len < len` for `len ≥ 2`). -/

variable {r : ℕ} [Fact r.Prime] {P : PairingGroups r}

inductive Res | undefined | valid | invalid
deriving DecidableEq, Repr

/-- a leaf after the per-index loop of `bls_batch_verify` -/
structure BLeaf (P : PairingGroups r) where
  pk : P.G2
  s : P.G1
  res : Res

/-- `bls_verify_E1` on the aggregated (pk, sig) of a node: `e(Σ s, -g2) · e(h, Σ pk) = 1` -/
def nodeCheck (h : P.G1) (l : List (BLeaf P)) : Bool :=
  decide (P.e (l.map (·.s)).sum (-P.g2) + P.e h (l.map (·.pk)).sum = 0)

/-- `bls_batch_verify_tree` on the segment `l` (results of the segment are returned) -/
def treeVerify (split : Nat → Nat) (h : P.G1) : Nat → List (BLeaf P) → List Res
  | 0, l => l.map (·.res)
  | fuel+1, l =>
    if nodeCheck h l then l.map (fun x => if x.res = .undefined then .valid else x.res)
    else if l.length ≤ 1 then l.map (fun _ => Res.invalid)
    else
      let k := split l.length
      treeVerify split h fuel (l.take k) ++ treeVerify split h fuel (l.drop k)

/-- Go pre-marking (`len ≠ 48` or identity key ⇒ false, pair replaced by identities) followed by the C loop:
    read + membership, failure ⇒ zeroed leaf marked INVALID, success ⇒ both sides multiplied by `c` -/
def prepLeaf (C : Codec P) (pk : P.G2) (sig : Bytes) (c : ZMod r) : BLeaf P × Bool :=
  let pre : Bool := decide (sig.length = 48) && decide (pk ≠ 0)
  let pk0 := if pre then pk else 0
  let sig0 := if pre then sig else C.encode 0
  match readG1 C sig0 with
  | none => ({ pk := 0, s := 0, res := .invalid }, pre)
  | some s => ({ pk := c • pk0, s := c • s, res := .undefined }, pre)

def Res.isValid : Res → Bool
  | .valid => true
  | _ => false

theorem prepLeaf_pre_false (C : Codec P) (pk : P.G2) (sig : Bytes) (c : ZMod r)
    (h : ¬ (sig.length = 48 ∧ pk ≠ 0)) : (prepLeaf C pk sig c).2 = false := by
  have hpre : (decide (sig.length = 48) && decide (pk ≠ 0)) = false := by
    rcases not_and_or.1 h with h1 | h1
    · simp [h1]
    · simp only [ne_eq, not_not] at h1; simp [h1]
  unfold prepLeaf
  simp only [hpre]
  split <;> rfl

theorem prepLeaf_none (C : Codec P) (pk : P.G2) (sig : Bytes) (c : ZMod r)
    (hl : sig.length = 48) (hpk : pk ≠ 0) (hr : readG1 C sig = none) :
    prepLeaf C pk sig c = ({ pk := 0, s := 0, res := .invalid }, true) := by
  unfold prepLeaf
  simp [hl, hpk, hr]

theorem prepLeaf_some (C : Codec P) (pk : P.G2) (sig : Bytes) (c : ZMod r) (s : P.G1)
    (hl : sig.length = 48) (hpk : pk ≠ 0) (hr : readG1 C sig = some s) :
    prepLeaf C pk sig c = ({ pk := c • pk, s := c • s, res := .undefined }, true) := by
  unfold prepLeaf
  simp [hl, hpk, hr]

theorem prepLeaf_leaf (C : Codec P) (pk : P.G2) (sig : Bytes) :
    (∀ c : ZMod r, (prepLeaf C pk sig c).1 = { pk := 0, s := 0, res := .invalid }) ∨
    ∃ pk0 s, ∀ c : ZMod r, (prepLeaf C pk sig c).1 = { pk := c • pk0, s := c • s, res := .undefined } := by
  unfold prepLeaf
  dsimp only
  split
  · exact .inl fun _ => rfl
  · exact .inr ⟨_, _, fun _ => rfl⟩

/-- the whole function: per-index booleans -/
def batchVerify (C : Codec P) (split : Nat → Nat) (h : P.G1) (inputs : List (P.G2 × Bytes × ZMod r)) : List Bool :=
  let prepped := inputs.map fun x => prepLeaf C x.1 x.2.1 x.2.2
  let tree := treeVerify split h (prepped.length + 1) (prepped.map (·.1))
  List.zipWith (fun (p : BLeaf P × Bool) (v : Res) => p.2 && v.isValid) prepped tree

/-- the defect of a leaf: zero exactly when the leaf passes the pairing equation on its own -/
def defect (h : P.G1) (x : BLeaf P) : P.GT := P.e x.s P.g2 - P.e h x.pk

theorem defect_zero (h : P.G1) (res : Res) : defect h ({ pk := 0, s := 0, res := res } : BLeaf P) = 0 := by
  simp only [defect, map_zero, LinearMap.zero_apply, sub_zero]

theorem defect_smul (h : P.G1) (c : ZMod r) (pk : P.G2) (s : P.G1) (res res' : Res) :
    defect h { pk := c • pk, s := c • s, res := res } = c • defect h { pk := pk, s := s, res := res' } := by
  simp only [defect, map_smul, LinearMap.smul_apply, smul_sub]

theorem nodeCheck_iff (h : P.G1) (l : List (BLeaf P)) :
    nodeCheck h l = true ↔ (l.map (defect h)).sum = 0 := by
  have hd : (l.map (defect h)).sum + (l.map fun x => P.e h x.pk).sum = (l.map fun x => P.e x.s P.g2).sum := by
    rw [← List.sum_map_add]; simp only [defect, sub_add_cancel]
  unfold nodeCheck
  rw [decide_eq_true_eq, P.e_neg_add_eq_zero, P.e_list_sum_left, map_list_sum, List.map_map, List.map_map]
  change (l.map fun x => P.e x.s P.g2).sum = (l.map fun x => P.e h x.pk).sum ↔ _
  rw [← hd, add_eq_right]

/-- the coefficient vector is good for the leaves: no contiguous segment containing a defective leaf has
    defects summing to zero (the complement is the counted bad set of DESIGN.md §6 C03) -/
def Good (h : P.G1) (l : List (BLeaf P)) : Prop :=
  ∀ a b, (∃ x ∈ (l.drop a).take b, defect h x ≠ 0) → (((l.drop a).take b).map (defect h)).sum ≠ 0

def GoodVec {G : Type*} [AddCommMonoid G] (v : List G) : Prop :=
  ∀ a b, (∃ d ∈ (v.drop a).take b, d ≠ 0) → ((v.drop a).take b).sum ≠ 0

theorem good_iff_goodVec (h : P.G1) (l : List (BLeaf P)) : Good h l ↔ GoodVec (l.map (defect h)) := by
  simp only [Good, GoodVec, ← List.map_drop, ← List.map_take, List.mem_map, exists_exists_and_eq_and]

/-- entries `0` or `d`, `d` at most once: a segment containing it sums to `d`, which is not `0` -/
theorem GoodVec.of_count_le_one {G : Type*} [AddCommMonoid G] [DecidableEq G] {v : List G} (d : G)
    (h0 : ∀ y ∈ v, y ≠ d → y = 0) (hc : v.count d ≤ 1) : GoodVec v := by
  intro a b ⟨y, hy, hne⟩
  have hsub : ((v.drop a).take b).Sublist v := (List.take_sublist _ _).trans (List.drop_sublist _ _)
  have hyd : y = d := by_contra fun hyd => hne (h0 y (hsub.subset hy) hyd)
  have h1 : ((v.drop a).take b).count d = 1 :=
    le_antisymm (hsub.count_le d |>.trans hc) (List.count_pos_iff.2 (hyd ▸ hy))
  rw [List.sum_eq_nsmul_single d fun y hyd hy => h0 y (hsub.subset hy) hyd, h1, one_nsmul, ← hyd]
  exact hne

theorem Good.take {h : P.G1} {l : List (BLeaf P)} (hg : Good h l) (k : Nat) : Good h (l.take k) := by
  intro a b
  rw [List.drop_take, List.take_take]
  exact hg a _

theorem Good.drop {h : P.G1} {l : List (BLeaf P)} (hg : Good h l) (k : Nat) : Good h (l.drop k) := by
  intro a b
  rw [List.drop_drop]
  exact hg _ b

theorem Good.whole {h : P.G1} {l : List (BLeaf P)} (hg : Good h l) (hx : ∃ x ∈ l, defect h x ≠ 0) :
    (l.map (defect h)).sum ≠ 0 := by
  have := hg 0 l.length
  rw [List.drop_zero, List.take_length] at this
  exact this hx

def expected (h : P.G1) (x : BLeaf P) : Res :=
  match x.res with
  | .invalid => .invalid
  | .valid => .valid
  | .undefined => if defect h x = 0 then .valid else .invalid

/-- **the tree recursion returns the index-by-index verdicts** for every good coefficient vector, every
    split with `0 < split len < len`, every list length -/
theorem treeVerify_spec (split : Nat → Nat) (hsplit : ∀ n, 2 ≤ n → 0 < split n ∧ split n < n) (h : P.G1) :
    ∀ (fuel : Nat) (l : List (BLeaf P)), l.length < fuel → Good h l →
      (∀ x ∈ l, x.res = .invalid → defect h x = 0) → (∀ x ∈ l, x.res ≠ .valid) →
      treeVerify split h fuel l = l.map (expected h) := by
  intro fuel
  induction fuel with
  | zero => intro l hl; omega
  | succ n ih =>
    intro l hl hg hinv hnv
    unfold treeVerify
    split
    · next hok =>
      -- the node verifies: no leaf of the segment is defective
      have hsum := (nodeCheck_iff h l).1 hok
      have hall : ∀ x ∈ l, defect h x = 0 := by
        intro x hx
        by_contra hne
        exact hg.whole ⟨x, hx, hne⟩ hsum
      apply List.map_congr_left
      intro x hx
      unfold expected
      cases hr : x.res <;> simp [hall x hx]
    · next hbad =>
      have hsum : (l.map (defect h)).sum ≠ 0 := fun h0 => hbad ((nodeCheck_iff h l).2 h0)
      split
      · next hle =>
        -- a leaf that fails on its own
        match l, hle with
        | [], _ => simp at hsum
        | [x], _ =>
          simp only [List.map_cons, List.map_nil, List.sum_cons, List.sum_nil, add_zero] at hsum
          simp only [List.map_cons, List.map_nil, List.cons.injEq, and_true]
          unfold expected
          cases hr : x.res
          · simp [hsum]
          · exact absurd hr (hnv x (by simp))
          · rfl
      · next hgt =>
        have hk := hsplit l.length (by omega)
        have e1 := ih (l.take (split l.length)) (by rw [List.length_take]; omega) (hg.take _)
          (fun x hx => hinv x (List.mem_of_mem_take hx)) (fun x hx => hnv x (List.mem_of_mem_take hx))
        have e2 := ih (l.drop (split l.length)) (by rw [List.length_drop]; omega) (hg.drop _)
          (fun x hx => hinv x (List.mem_of_mem_drop hx)) (fun x hx => hnv x (List.mem_of_mem_drop hx))
        simp only
        rw [e1, e2, ← List.map_append, List.take_append_drop]
