import Proofs.DkgHonest
import Proofs.DkgBlame

/-!
# An honest dealer is never blamed by an honest receiver (Feldman-VSS-Qual, network level)

`Proofs/DkgHonest.lean` shows that an honest dealer is never *disqualified*. Here: no `Disqualify` and no
`FlagMisbehavior` callback of an honest receiver ever targets an honest dealer, over a whole execution (three rounds of
deliveries, both timeouts, `End`), for every behaviour of the other participants and every delivery order - given what
an honest dealer and a reliable network provide: each message of the dealer (its vector, the receiver's share, the
answer to each complainer) is delivered at most once, the vector and the share in the first round, the dealer
broadcasts nothing else that the instance reads, at most `t` participants complain and each is answered.
-/

namespace Proofs.DkgAgree
open Model Model.Dkg Proofs.DkgCommute

variable {O : Ops}

/-- the dealer's message of this kind has not been received before, and is in time -/
def FreshFor (s : St O) : Kind → Prop
  | .vec _ => s.vAReceived = false ∧ s.sharesTimeout = false
  | .share _ => s.xReceived = false ∧ s.sharesTimeout = false
  | .ans j _ => ¬ answered s j
  | _ => True

/-- the dealer broadcasts no complaint-tagged message once the complaints timeout has passed (the only ignored
    broadcast of the dealer that is flagged) -/
def DealerQuiet (s : St O) (e : Dl) : Prop :=
  e.sender = s.dealer → classify s e = .noop → s.complaintsTimeout = false

theorem nb_disq {A o : Nat} (h : o ≠ A) : NoBlame A [Out.disq o] := by
  have : (o == A) = false := by simpa using h
  simp [NoBlame, blames, this]

theorem nb_flag {A o : Nat} (h : o ≠ A) : NoBlame A [Out.flag o] := by
  have : (o == A) = false := by simpa using h
  simp [NoBlame, blames, this]

/-- a complaint of somebody else draws no blame on an honest dealer: an answer registered before it fits the vector -/
theorem hd_rc_noblame {H : Honest O} {s : St O} (h : HD H s) (o : Nat) (hod : o ≠ s.dealer) (d : Bytes) :
    NoBlame s.dealer (FvssQ.receiveComplaint s o d).2 := by
  refine rc_cases (P := fun r => NoBlame s.dealer r.2) s o d (fun _ => nb_flag hod) (NoBlame.nil _)
    (fun e => absurd e hod) (fun _ _ _ e => absurd e h.inv.hme) (fun _ _ _ _ => NoBlame.nil _)
    (fun _ _ _ => nb_flag hod) (fun c hf _ hv ha _ => ?_) (fun _ _ _ => NoBlame.nil _)
  show NoBlame s.dealer (if s.checkComplaint o (recv c) = true then _ else _)
  rw [h.chk hv, show (recv c).answer = c.answer from rfl, h.ans o c hf ha]
  exact NoBlame.nil _

theorem hd_ra_quiet {H : Honest O} {s : St O} (h : HD H s) (d : Bytes) (j a : Nat)
    (hp : parseA s d = some (j, some a)) (hva : O.checkLog H.v0 j a = true) (hfr : ¬ answered s j) :
    (FvssQ.receiveComplaintAnswer s s.dealer d).2 = [] := by
  rw [ra_pair, if_neg (fun hh => hh rfl), hp]
  show raOuts s j (some a) = []
  unfold raOuts
  cases hfj : s.find j with
  | none => rfl
  | some c =>
    simp only []
    rw [if_neg (fun har => hfr ⟨c, hfj, har⟩)]
    split
    · refine if_neg (fun hc => ?_)
      rw [h.chk hc.1] at hc
      exact absurd hc.2 (by show ¬ (!O.checkLog H.v0 j a) = true; rw [hva]; exact Bool.false_ne_true)
    · rfl

/-- **one delivery never blames an honest dealer**: the receiver's instance is consistent with the honest dealer
    (`HD`), the delivery is one an honest dealer and arbitrary others can cause (`AllowedK`), a message of the dealer
    is delivered for the first time and in time (`FreshFor`), and the dealer does not broadcast complaints after the
    second timeout (`DealerQuiet`) -/
theorem step_noblame_dealer {H : Honest O} {s : St O} (h : HD H s) (e : Dl)
    (ha : AllowedK H s (classify s e)) (hf : FreshFor s (classify s e)) (hq : DealerQuiet s e) :
    NoBlame s.dealer (stepOuts s e) := by
  have hnd : ¬ s.disqualified = true := by rw [h.ndq]; exact Bool.false_ne_true
  cases e with
  | priv o m =>
    refine privBody_cases (P := fun r => NoBlame s.dealer r.2) s o m (fun _ => NoBlame.nil _) (fun ho => ?_)
    by_cases hod : o = s.dealer
    · subst hod
      have hc := classify_share s s.dealer rfl ho m
      rw [hc] at ha hf
      rw [hd_rs h m ha.2 hf.1 hf.2]; exact NoBlame.nil _
    · rw [rs_pair, if_pos hod]; exact NoBlame.nil _
  | bcast o m =>
    show NoBlame s.dealer (FvssQ.bcastBody s o m).2
    by_cases hod : o = s.dealer
    · -- a broadcast of the dealer: its kind says which handler runs, and `ha`, `hf`, `hq` exclude every callback
      subst hod
      unfold FvssQ.bcastBody
      by_cases ho : s.me = s.dealer
      · rw [if_pos ho]; exact NoBlame.nil _
      rw [if_neg ho, if_neg hnd]
      simp only []
      have hk : classify s (.bcast s.dealer m) = classifyB s s.dealer m := rfl
      rw [hk] at ha hf
      unfold classifyB at ha hf
      rw [if_neg ho] at ha hf
      by_cases h0 : m.length = 0
      · rw [if_pos h0, if_pos rfl] at ha; exact ha.elim
      rw [if_neg h0] at ha hf ⊢
      by_cases h1 : m.headD 0 = tagVerifVec
      · rw [if_pos h1, if_pos rfl] at ha hf
        rw [if_pos h1, hd_rv h _ ha.2 hf.1 hf.2]; exact NoBlame.nil _
      rw [if_neg h1] at ha hf ⊢
      by_cases h2 : m.headD 0 = tagComplaint
      · rw [if_pos h2] at ha ⊢
        rw [rc_pair]
        by_cases hct : s.complaintsTimeout = true
        · have hcl : classify s (.bcast s.dealer m) = .noop := by
            show classifyB s s.dealer m = _
            unfold classifyB
            rw [if_neg ho, if_neg h0, if_neg h1, if_pos h2, if_pos hct]
          rw [hq rfl hcl] at hct; cases hct
        rw [if_neg hct] at ha ⊢
        cases hp : parseC s (m.drop 1) with
        | none => rw [hp, if_pos rfl] at ha; exact ha.elim
        | some ce =>
          show NoBlame s.dealer (if s.dealer = s.dealer ∨ ce ≠ s.dealer then (s, []) else _).2
          rw [if_pos (Or.inl rfl)]; exact NoBlame.nil _
      rw [if_neg h2] at ha hf ⊢
      by_cases h3 : m.headD 0 = tagAnswer
      · rw [if_pos h3, if_pos rfl] at ha hf
        rw [if_pos h3]
        cases hp : parseA s (m.drop 1) with
        | none => rw [hp] at ha; exact ha.elim
        | some p =>
          obtain ⟨j, sc⟩ := p
          rw [hp] at ha hf
          obtain ⟨a, rfl, hva⟩ := ha
          rw [hd_ra_quiet h _ j a hp hva hf]; exact NoBlame.nil _
      · rw [if_neg h3, if_pos rfl] at ha; exact ha.elim
    · -- a broadcast of somebody else blames its sender, or nobody
      exact bcastBody_cases (P := fun r => NoBlame s.dealer r.2) s o m (fun _ => NoBlame.nil _)
        (fun _ _ => by rw [if_neg hod]; exact nb_disq hod)
        (fun _ _ => by rw [rv_pair, if_pos hod]; exact NoBlame.nil _) (fun _ _ _ => hd_rc_noblame h o hod _)
        (fun _ _ => by rw [ra_pair, if_pos hod]; exact NoBlame.nil _)

theorem answered_rcOk_back (s : St O) (k j : Nat) (h : answered (rcOk s k) j) : answered s j := by
  obtain ⟨c, hc, ha⟩ := h
  rw [rcOk_upd, applyUpd_find] at hc
  by_cases hj : j = k
  · rw [if_pos hj] at hc
    subst hj
    cases he : (rcU (s.find j) s.vAReceived (s.checkComplaint j)).entry with
    | none => rw [he] at hc; exact ⟨c, hc, ha⟩
    | some c' =>
      rw [he] at hc
      cases hc
      rcases (rcU_cases _ _ _).1 c he with ⟨_, rfl⟩ | ⟨c0, hf, rfl⟩
      · cases ha
      · exact ⟨c0, hf, ha⟩
  · rw [if_neg hj] at hc; exact ⟨c, hc, ha⟩

theorem frames_interp {H : Honest O} {s : St O} (h : HD H s) (k : Kind) (ha : AllowedK H s k) (hf : FreshFor s k) :
    ((interp s k).vAReceived = true → s.vAReceived = true ∨ ∃ d, k = .vec d) ∧
    ((interp s k).xReceived = true → s.xReceived = true ∨ ∃ d, k = .share d) ∧
    (∀ j, answered (interp s k) j → answered s j ∨ ∃ sc, k = .ans j sc) := by
  cases k with
  | noop => exact ⟨Or.inl, Or.inl, fun _ => Or.inl⟩
  | disq => exact absurd ha (by simp [AllowedK])
  | cmpl c =>
    have kp := rcOk_keeps s c
    refine ⟨fun hh => Or.inl (by rw [← kp.1]; exact hh), fun hh => Or.inl (by rw [← kp.2.1]; exact hh), ?_⟩
    intro j hj
    exact Or.inl (answered_rcOk_back s c j hj)
  | ans j' sc =>
    have kp := raOk_keeps s j' sc
    refine ⟨fun hh => Or.inl (by rw [← kp.1]; exact hh), fun hh => Or.inl (by rw [← kp.2.1]; exact hh), ?_⟩
    intro j hj
    by_cases hjj : j = j'
    · exact Or.inr ⟨sc, by rw [hjj]⟩
    · left
      obtain ⟨c, hc, hca⟩ := hj
      have : (interp s (.ans j' sc)).find j = s.find j := by
        show (raOk s j' sc).find j = _
        rw [raOk_F]; exact applyUpd_find_stable s j j' _ (Or.inl hjj)
      rw [this] at hc
      exact ⟨c, hc, hca⟩
  | vec d =>
    rw [interp_vec h d ha.2, if_neg (by simp [hf.1, hf.2])]
    exact ⟨fun _ => Or.inr ⟨d, rfl⟩, fun hh => Or.inl hh, fun j ⟨c, hc, hca⟩ => Or.inl ⟨c, hc, hca⟩⟩
  | share d =>
    rw [interp_share h d ha.2, if_neg (by simp [hf.1, hf.2])]
    exact ⟨fun hh => Or.inl hh, fun _ => Or.inr ⟨d, rfl⟩, fun j ⟨c, hc, hca⟩ => Or.inl ⟨c, hc, hca⟩⟩

/-- the part of the configuration the classification of the dealer's messages depends on -/
def Cfg4 (s0 t : St O) : Prop := t.me = s0.me ∧ t.dealer = s0.dealer ∧ t.size = s0.size ∧ t.threshold = s0.threshold

theorem Cfg4.of_cfgCT {s0 t : St O} {ct : Bool} (h : CfgCT s0 ct t) : Cfg4 s0 t := ⟨h.1, h.2.1, h.2.2.1, h.threshold⟩

theorem Cfg4.trans {s0 s t : St O} (h : Cfg4 s0 s) (c : SameCfg s t) : Cfg4 s0 t :=
  ⟨c.me.trans h.1, c.dealer.trans h.2.1, c.size.trans h.2.2.1, c.threshold.trans h.2.2.2⟩

/-- two deliveries are the same message of the dealer: two vectors, two shares, two answers for one complainer -/
def SameMsg : Kind → Kind → Prop
  | .vec _, .vec _ => True
  | .share _, .share _ => True
  | .ans j _, .ans j' _ => j = j'
  | _, _ => False

/-- **no message of the dealer is delivered twice** (reliable broadcast of an honest dealer's messages) -/
def Once (s0 : St O) (l : List Dl) : Prop :=
  l.Pairwise (fun a b => ∀ t u, Cfg4 s0 t → Cfg4 s0 u → ¬ SameMsg (classify t a) (classify u b))

/-- what is still to be delivered has not been received yet -/
def Safe (s0 s : St O) (R : List Dl) : Prop :=
  ∀ e ∈ R, ∀ t, Cfg4 s0 t →
    match classify t e with
    | .vec _ => s.vAReceived = false
    | .share _ => s.xReceived = false
    | .ans j _ => ¬ answered s j
    | _ => True

/-- neither the vector nor a share among the deliveries (rounds two and three) -/
def NoVS (s0 : St O) (l : List Dl) : Prop :=
  ∀ e ∈ l, ∀ t, Cfg4 s0 t → match classify t e with | .vec _ => False | .share _ => False | _ => True

theorem freshFor_of_safe {s0 s : St O} {e : Dl} {R : List Dl} (hs : Safe s0 s (e :: R)) (hc : Cfg4 s0 s)
    (hvs : s.sharesTimeout = false ∨ NoVS s0 [e]) : FreshFor s (classify s e) := by
  have h1 := hs e List.mem_cons_self s hc
  have h2 : s.sharesTimeout = true → match classify s e with | .vec _ => False | .share _ => False | _ => True := by
    intro hst
    rcases hvs with h | h
    · rw [h] at hst; cases hst
    · exact h e List.mem_cons_self s hc
  cases hk : classify s e with
  | vec d =>
    rw [hk] at h1 h2
    refine ⟨h1, ?_⟩
    cases hst : s.sharesTimeout
    · rfl
    · exact absurd (h2 hst) (by simp)
  | share d =>
    rw [hk] at h1 h2
    refine ⟨h1, ?_⟩
    cases hst : s.sharesTimeout
    · rfl
    · exact absurd (h2 hst) (by simp)
  | ans j sc => rw [hk] at h1; exact h1
  | noop => trivial
  | disq => trivial
  | cmpl k => trivial

theorem safe_step {H : Honest O} {s0 s : St O} {e : Dl} {R : List Dl} (h : HD H s) (hc : Cfg4 s0 s)
    (ha : AllowedK H s (classify s e)) (hf : FreshFor s (classify s e)) (hs : Safe s0 s (e :: R))
    (ho : ∀ b ∈ R, ∀ t u, Cfg4 s0 t → Cfg4 s0 u → ¬ SameMsg (classify t e) (classify u b)) :
    Safe s0 (step s e) R := by
  rw [step_classify s e h.inv.hme h.ndq]
  have fr := frames_interp h _ ha hf
  intro b hb t ht
  have hsb := hs b (List.mem_cons_of_mem _ hb) t ht
  have hob := ho b hb s t hc ht
  cases hk : classify t b with
  | vec d =>
    rw [hk] at hsb hob
    simp only []
    cases hv : (interp s (classify s e)).vAReceived
    · rfl
    · rcases fr.1 hv with h1 | ⟨d', h1⟩
      · rw [hsb] at h1; cases h1
      · rw [h1] at hob; exact absurd trivial hob
  | share d =>
    rw [hk] at hsb hob
    simp only []
    cases hv : (interp s (classify s e)).xReceived
    · rfl
    · rcases fr.2.1 hv with h1 | ⟨d', h1⟩
      · rw [hsb] at h1; cases h1
      · rw [h1] at hob; exact absurd trivial hob
  | ans j sc =>
    rw [hk] at hsb hob
    simp only []
    intro hans
    rcases fr.2.2 j hans with h1 | ⟨sc', h1⟩
    · exact hsb h1
    · rw [h1] at hob; exact hob rfl
  | noop => trivial
  | disq => trivial
  | cmpl k => trivial

theorem round_noblame_dealer {H : Honest O} (K : Finset Nat) (s0 : St O) :
    ∀ (l R : List Dl) (s : St O), HD H s → Cfg4 s0 s → RoundOK H K s l →
      (∀ e ∈ l, ∀ t, SameCfg s t → DealerQuiet t e) →
      Once s0 (l ++ R) → Safe s0 s (l ++ R) → (s.sharesTimeout = false ∨ NoVS s0 l) →
      NoBlame s.dealer (runOuts s l) ∧ Safe s0 (runList s l) R := by
  intro l
  induction l with
  | nil =>
    intro R s _ _ _ _ _ hs _
    exact ⟨NoBlame.nil _, hs⟩
  | cons e t ih =>
    intro R s h hc hok hq honce hs hvs
    obtain ⟨ha, hk, _⟩ := hok e List.mem_cons_self s (SameCfg.rfl' s)
    have hvs1 : s.sharesTimeout = false ∨ NoVS s0 [e] :=
      hvs.imp_right (fun h1 b hb => by rw [List.mem_singleton.1 hb]; exact h1 e List.mem_cons_self)
    have hs' : Safe s0 s (e :: (t ++ R)) := hs
    have hf := freshFor_of_safe hs' hc hvs1
    have nb := step_noblame_dealer h e ha hf (hq e List.mem_cons_self s (SameCfg.rfl' s))
    obtain ⟨h1, m1⟩ := hd_step K h e ha hk
    have honce' : List.Pairwise (fun a b => ∀ t u, Cfg4 s0 t → Cfg4 s0 u → ¬ SameMsg (classify t a) (classify u b))
        (e :: (t ++ R)) := honce
    rw [List.pairwise_cons] at honce'
    obtain ⟨nb2, hs2⟩ := ih R (step s e) h1 (hc.trans m1.cfg)
      (fun e' he' u hu => hok e' (List.mem_cons_of_mem _ he') u (m1.cfg.trans hu))
      (fun e' he' u hu => hq e' (List.mem_cons_of_mem _ he') u (m1.cfg.trans hu)) honce'.2
      (safe_step h hc ha hf hs' honce'.1)
      (hvs.imp (fun h2 => m1.cfg.sharesTimeout.trans h2) (fun h2 b hb => h2 b (List.mem_cons_of_mem _ hb)))
    rw [m1.cfg.dealer] at nb2
    exact ⟨NoBlame.append nb nb2, hs2⟩

/-- **an honest dealer is never blamed by an honest receiver**: over three rounds of deliveries, both timeouts and
    `End`, no `Disqualify` / `FlagMisbehavior` callback of the receiver targets the dealer - whatever the other
    participants broadcast or send and in whatever order - provided the deliveries are compatible with an honest
    dealer (`RoundOK'`: the dealer's vector, the receiver's valid share, valid answers, nothing malformed from the
    dealer), the vector and the share arrive in the first round, at most `t` participants (`K`) complain and each is
    answered, no message of the dealer is delivered twice (`Once`), and the dealer broadcasts no complaint after the
    second timeout. -/
theorem honest_dealer_never_blamed (H : Honest O) (K : Finset Nat) (s0 : St O) (h0 : HD H s0)
    (hst0 : s0.sharesTimeout = false) (hct0 : s0.complaintsTimeout = false) (hK : K.card ≤ s0.threshold)
    (hk0 : keysIn K s0) (hv0 : s0.vAReceived = false) (hx0 : s0.xReceived = false) (hc0 : s0.complaints = [])
    (r1 r2 r3 : List Dl)
    (ok1 : RoundOK' H K s0 false r1) (ok2 : RoundOK' H K s0 false r2) (ok3 : RoundOK' H K s0 true r3)
    (hvec : ∃ e ∈ r1, ∃ d, ∀ t, CfgCT s0 false t → classify t e = .vec d)
    (hshare : ∃ e ∈ r1, ∃ d, ∀ t, CfgCT s0 false t → classify t e = .share d)
    (hans : ∀ k ∈ K, ∃ a, (∃ e ∈ r1, ∀ t, CfgCT s0 false t → classify t e = .ans k (some a)) ∨
      (∃ e ∈ r2, ∀ t, CfgCT s0 false t → classify t e = .ans k (some a)) ∨
      (∃ e ∈ r3, ∀ t, CfgCT s0 true t → classify t e = .ans k (some a)))
    (once : Once s0 (r1 ++ (r2 ++ r3))) (novs2 : NoVS s0 r2) (novs3 : NoVS s0 r3)
    (quiet3 : ∀ e ∈ r3, ∀ t, CfgCT s0 true t → DealerQuiet t e) :
    NoBlame s0.dealer (allOuts s0 r1 r2 r3) := by
  have R := honest_run H K s0 h0 hst0 hct0 hK hk0 r1 r2 r3 ok1 ok2 ok3 hvec hshare hans
  have c0 : CfgCT s0 false s0 := ⟨rfl, rfl, rfl, rfl, hct0⟩
  have safe0 : Safe s0 s0 (r1 ++ (r2 ++ r3)) := by
    intro e _ t _
    cases classify t e with
    | vec d => exact hv0
    | share d => exact hx0
    | ans j sc =>
      rintro ⟨c, hc, _⟩
      unfold St.find at hc
      rw [hc0] at hc
      cases hc
    | noop => trivial
    | disq => trivial
    | cmpl k => trivial
  -- before the second timeout no complaint-tagged broadcast is late
  have quietF : ∀ (s : St O), s.complaintsTimeout = false → ∀ e ∈ r1 ++ r2, ∀ t, SameCfg s t → DealerQuiet t e :=
    fun s hs e _ t ht _ _ => ht.complaintsTimeout.trans hs
  have once2 : Once s0 (r2 ++ r3) := (List.pairwise_append.1 once).2.1
  obtain ⟨nb1, sf1⟩ := round_noblame_dealer K s0 r1 (r2 ++ r3) s0 h0 (Cfg4.of_cfgCT c0) (roundOK_of' ok1 s0 c0)
    (fun e he => quietF s0 hct0 e (List.mem_append_left _ he)) once safe0 (Or.inl hst0)
  -- the timeouts set a flag that `Safe` does not read
  obtain ⟨nb2, sf2⟩ := round_noblame_dealer K s0 r2 r3 _ R.hd1 (Cfg4.of_cfgCT R.cfg1) (roundOK_of' ok2 _ R.cfg1)
    (fun e he => quietF _ R.cfg1.ct e (List.mem_append_right _ he)) once2 sf1 (Or.inr novs2)
  obtain ⟨nb3, _⟩ := round_noblame_dealer K s0 r3 [] _ R.hd2 (Cfg4.of_cfgCT R.cfg2) (roundOK_of' ok3 _ R.cfg2)
    (fun e he t ht => quiet3 e he t (R.cfg2.trans ht))
    (by rw [List.append_nil]; exact (List.pairwise_append.1 once2).2.1) (by rw [List.append_nil]; exact sf2)
    (Or.inr novs3)
  have se : (FvssQ.settle (final s0 r1 r2 r3)).2 = [] := by
    unfold final FvssQ.settle
    rw [R.tstep1, R.tstep2, R.answered]
    simp only [Bool.false_eq_true, and_false, if_false]
  unfold allOuts
  rw [R.tstep1, R.t1, R.tstep2, R.t2, se]
  rw [R.cfg1.2.1] at nb2
  rw [R.cfg2.2.1] at nb3
  simp only [List.append_nil]
  exact NoBlame.append (NoBlame.append nb1 nb2) nb3

end Proofs.DkgAgree
