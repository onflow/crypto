import Mathlib.Algebra.BigOperators.Group.Finset.Basic
import Mathlib.Algebra.BigOperators.Ring.Finset
import Mathlib.Algebra.Field.ZMod
import Proofs.Limbs
import Proofs.PowMod

/-! The coefficient computed by the C loop (limb products, sign, one inversion) is the textbook Lagrange
coefficient at zero `Π_{j≠i} x_j / (x_j - x_i)` in `F_r`. -/

namespace Proofs.LagrangeCoeff
open Model.Threshold Proofs.Limbs

variable {r : ℕ} [hr : Fact r.Prime] (indices : List Nat) (i : Nat)

def v (j : Nat) : ZMod r := (indices.getD j 0 : ZMod r)

theorem dist_cast (a b : Nat) : ((dist a b : Nat) : ZMod r) = if a < b then -((a : ZMod r) - b) else (a : ZMod r) - b := by
  split
  · next h => rw [dist_of_lt h, Nat.cast_sub (le_of_lt h), neg_sub]
  · next h => rw [dist_of_not_lt h, Nat.cast_sub (not_lt.1 h)]

/-- sign and magnitude recombine to the signed product `Π_{j ∈ js, j ≠ i} (x_j - x_i)` in the field -/
theorem signed_den (js : List Nat) :
    (if flips indices i js then -((prodOthers i (gap indices i) js : Nat) : ZMod r)
      else ((prodOthers i (gap indices i) js : Nat) : ZMod r)) =
      prodOthers i (fun j => v (r := r) indices j - v indices i) js := by
  induction js with
  | nil => simp [flips, prodOthers_nil]
  | cons j js ih =>
    by_cases h : j = i
    · simp only [flips, prodOthers_cons, h, if_true]; exact ih
    · have hg : ((gap indices i j : Nat) : ZMod r) = if node indices j < node indices i
          then -(v indices j - v indices i) else v indices j - v indices i := dist_cast _ _
      rw [flips, if_neg h, prodOthers_cons, if_neg h, prodOthers_cons, if_neg h, ← ih, Nat.cast_mul, hg]
      by_cases hlt : node indices j < node indices i
      · simp only [hlt, decide_true, if_true, Bool.true_xor]
        cases flips indices i js <;>
          simp only [Bool.not_false, Bool.not_true, if_true, if_false, Bool.false_eq_true, neg_mul, neg_neg, mul_neg]
      · simp only [hlt, decide_false, if_false, Bool.false_xor]
        cases flips indices i js <;> simp only [if_true, if_false, Bool.false_eq_true, mul_neg]

/-- **the limb-batched loop computes the textbook Lagrange coefficient at zero**, for every list of indices
    at most 255 and every position `i` (`r < 2^800` is what `Proofs.PowMod.powMod_inv` asks: the fuel of the
    model's `powMod`) -/
theorem coeff_spec (h2 : 2 < r) (hbig : r < 2 ^ 800) (hb : ∀ x ∈ indices, x ≤ 255) :
    ((coeff r indices i : Nat) : ZMod r) =
      ∏ j ∈ (Finset.range indices.length).erase i, v indices j / (v indices j - v indices i) := by
  unfold coeff
  rw [coeffParts_spec indices i r hb]
  simp only []
  rw [ZMod.natCast_mod, Nat.cast_mul, Proofs.PowMod.powMod_inv r h2 hbig]
  have hd : ((if flips indices i (List.range indices.length) = true
      then (r - prodOthers i (gap indices i) (List.range indices.length) % r) % r
      else prodOthers i (gap indices i) (List.range indices.length) % r : Nat) : ZMod r) =
      prodOthers i (fun j => v (r := r) indices j - v indices i) (List.range indices.length) := by
    rw [← signed_den]
    split
    · rw [ZMod.natCast_mod, Nat.cast_sub (le_of_lt (Nat.mod_lt _ hr.out.pos)), ZMod.natCast_self,
        ZMod.natCast_mod, zero_sub]
    · rw [ZMod.natCast_mod]
  rw [hd, ZMod.natCast_mod, prodOthers_eq_prod _ _ _ List.nodup_range, prodOthers_eq_prod _ _ _ List.nodup_range,
    List.toFinset_range, Nat.cast_prod, Finset.prod_div_distrib, div_eq_mul_inv]
  rfl

end Proofs.LagrangeCoeff
