import Model.Threshold
import Extracted.Locks

/-! # C18 — the stateful threshold-signature object is linearizable under concurrent use

(1) Invariants of the sequential semantics `Model.Threshold.step` by induction over operation sequences.
(2) A concurrent execution in which every operation's body runs atomically (under the object's lock) is
    linearizable with the body as linearization point — for any number of threads and any interleaving.
(3) Tie: the lock discipline extracted from the code justifies (2)'s atomicity assumption for every method
    that touches mutable state. `sync.RWMutex` itself and the Go memory model are assumed (partial). -/

namespace Props.C18
open Model Model.Threshold

variable (E : Env)

/-! ### (1) sequential invariants -/

def Inv (o : Obj) : Prop :=
  o.shares.length ≤ E.threshold + 1 ∧ (o.shares.map (·.1)).Nodup ∧
  (∀ s, o.sig = some s → E.verifyGroup s = true ∧ o.shares.length = E.threshold + 1)

theorem inv_init : Inv E {} := ⟨by simp, by simp, by intro s h; cases h⟩

theorem has_iff (o : Obj) (i : Nat) : o.has i = true ↔ i ∈ o.shares.map (·.1) := by
  unfold Obj.has
  simp [List.any_eq_true, List.mem_map]

theorem addShare_inv (o : Obj) (i : Nat) (share : Bytes) (h : Inv E o)
    (hh : o.has i = false) (he : o.enough E = false) : Inv E (addShare o i share) := by
  obtain ⟨h1, h2, h3⟩ := h
  have hlt : o.shares.length < E.threshold + 1 := by
    have : o.shares.length ≠ E.threshold + 1 := by simpa [Obj.enough] using he
    omega
  refine ⟨by simp [addShare]; omega, ?_, ?_⟩
  · simp only [addShare, List.map_append, List.map_cons, List.map_nil]
    rw [List.nodup_append]
    refine ⟨h2, by simp, ?_⟩
    intro a ha b hb' hab
    simp at hb'
    subst hb' hab
    have := (has_iff o _).2 ha
    rw [hh] at this; cases this
  · intro s hs
    have := h3 s hs
    omega

theorem reconstruct_sig (o : Obj) (s : Bytes) (h : reconstruct E o = .sig s) :
    E.verifyGroup s = true ∧ o.shares.length = E.threshold + 1 := by
  unfold reconstruct at h
  split at h; · cases h
  rename_i hen
  split at h; · cases h
  split at h; · cases h
  split at h
  · rename_i hv
    cases h
    exact ⟨hv, by simpa [Obj.enough] using hen⟩
  · cases h

theorem step_cases (o : Obj) (op : Op) :
    (step E o op).1 = o ∨
    (∃ i share, o.has i = false ∧ o.enough E = false ∧ (step E o op).1 = addShare o i share) ∨
    (∃ s, o.sig = none ∧ reconstruct E o = .sig s ∧ (step E o op).1 = { o with sig := some s }) := by
  cases op with
  | trustedAdd orig share =>
    simp only [step, trustedAdd]
    by_cases h1 : badIndex E orig = true; · exact .inl (by rw [if_pos h1])
    by_cases h2 : o.has orig.toNat = true; · exact .inl (by rw [if_neg h1, if_pos h2])
    by_cases h3 : o.enough E = true; · exact .inl (by rw [if_neg h1, if_neg h2, if_pos h3])
    exact .inr (.inl ⟨_, share, by simpa using h2, by simpa using h3, by rw [if_neg h1, if_neg h2, if_neg h3]⟩)
  | verifyAndAdd orig share =>
    simp only [step, verifyAndAdd]
    by_cases h1 : badIndex E orig = true; · exact .inl (by rw [if_pos h1])
    by_cases h2 : o.has orig.toNat = true; · exact .inl (by rw [if_neg h1, if_pos h2])
    by_cases h3 : E.verifyShare orig.toNat share = true ∧ o.enough E = false
    · exact .inr (.inl ⟨_, share, by simpa using h2, h3.2, by rw [if_neg h1, if_neg h2, if_pos h3]⟩)
    · exact .inl (by rw [if_neg h1, if_neg h2, if_neg h3])
  | hasShare orig => simp only [step]; split <;> exact .inl rfl
  | enoughShares => exact .inl rfl
  | verifyShare orig share => simp only [step]; split <;> exact .inl rfl
  | verifyThresholdSignature s => exact .inl rfl
  | thresholdSignature =>
    simp only [step, thresholdSignature]
    cases hs : o.sig with
    | some s => exact .inl rfl
    | none =>
      cases hr : reconstruct E o with
      | sig s => exact .inr (.inr ⟨s, rfl, rfl, rfl⟩)
      | _ => exact .inl rfl

/-- **at most `t+1` shares, at most one share per signer, a cached threshold signature is valid** — after any
    operation -/
theorem step_inv (o : Obj) (op : Op) (h : Inv E o) : Inv E (step E o op).1 := by
  rcases step_cases E o op with e | ⟨i, share, hh, he, e⟩ | ⟨s, _, hr, e⟩ <;> rw [e]
  · exact h
  · exact addShare_inv E o i share h hh he
  · exact ⟨h.1, h.2.1, fun s' hs' => by cases hs'; exact reconstruct_sig E o s hr⟩

/-- invariants hold after every operation sequence -/
theorem run_inv (ops : List Op) : ∀ o, Inv E o → Inv E (run E o ops).1 := by
  induction ops with
  | nil => intro o h; exact h
  | cons op ops ih => intro o h; simp only [run]; exact ih _ (step_inv E o op h)

/-- the read-only operations leave the state unchanged -/
theorem readers_pure (o : Obj) (orig : Int) (share s : Bytes) :
    (step E o (.hasShare orig)).1 = o ∧ (step E o .enoughShares).1 = o ∧
    (step E o (.verifyShare orig share)).1 = o ∧ (step E o (.verifyThresholdSignature s)).1 = o := by
  refine ⟨?_, rfl, ?_, rfl⟩ <;> (simp only [step]; split <;> rfl)

/-- **the stateless methods are history independent**: what `VerifyShare` and `VerifyThresholdSignature` return does
    not depend on the object's pool, hence not on which shares were added before (verified or not) nor on any
    concurrent writer - after any two histories `ops`, `ops'` from any two states the answers are equal -/
theorem stateless_history_independent (o o' : Obj) (ops ops' : List Op) (orig : Int) (share s : Bytes) :
    (step E (run E o ops).1 (.verifyShare orig share)).2 = (step E (run E o' ops').1 (.verifyShare orig share)).2 ∧
    (step E (run E o ops).1 (.verifyThresholdSignature s)).2 =
      (step E (run E o' ops').1 (.verifyThresholdSignature s)).2 := by
  refine ⟨?_, rfl⟩
  simp only [step]
  split <;> rfl

/-- the retained shares only grow (as a list prefix), hence `EnoughShares` never reverts to false -/
theorem shares_grow (o : Obj) (op : Op) : ∃ extra, (step E o op).1.shares = o.shares ++ extra := by
  rcases step_cases E o op with e | ⟨i, share, _, _, e⟩ | ⟨s, _, _, e⟩ <;> rw [e]
  · exact ⟨[], by simp⟩
  · exact ⟨_, rfl⟩
  · exact ⟨[], by simp⟩

theorem enough_monotone (o : Obj) (op : Op) (h : Inv E o) (he : o.enough E = true) :
    (step E o op).1.enough E = true := by
  obtain ⟨extra, hx⟩ := shares_grow E o op
  have hi := (step_inv E o op h).1
  unfold Obj.enough at *
  rw [hx] at hi ⊢
  simp only [List.length_append] at hi ⊢
  simp only [beq_iff_eq] at he ⊢
  omega

/-- once `ThresholdSignature` has succeeded, every later call returns the same signature, whatever happens in between -/
theorem sig_stable (o : Obj) (s : Bytes) (hs : o.sig = some s) (op : Op) :
    (step E o op).1.sig = some s ∧ (step E o .thresholdSignature).2 = .sig s := by
  refine ⟨?_, by simp [step, thresholdSignature, hs]⟩
  rcases step_cases E o op with e | ⟨i, share, _, _, e⟩ | ⟨s', hn, _, _⟩
  · rw [e, hs]
  · rw [e]; exact hs
  · rw [hs] at hn; cases hn

/-- **the object never returns a threshold signature that fails verification under the group key** -/
theorem stateful_never_invalid (o : Obj) (h : Inv E o) (s : Bytes)
    (hr : (step E o .thresholdSignature).2 = .sig s) : E.verifyGroup s = true := by
  simp only [step, thresholdSignature] at hr
  cases hs : o.sig with
  | some s' =>
    simp only [hs] at hr
    cases hr
    exact (h.2.2 s hs).1
  | none =>
    simp only [hs] at hr
    cases hrec : reconstruct E o with
    | sig s' =>
      simp only [hrec] at hr
      cases hr
      exact (reconstruct_sig E o s hrec).1
    | _ => simp [hrec] at hr

/-- fewer than `t+1` shares: not-enough-shares error -/
theorem not_enough (o : Obj) (hs : o.sig = none) (he : o.enough E = false) :
    (step E o .thresholdSignature).2 = .notEnoughShares := by
  simp [step, thresholdSignature, hs, reconstruct, he]

/-! ### (2) concurrent executions with atomic bodies are linearizable -/

/-- a completed operation of a concurrent execution: its body ran atomically at logical time `body`,
    strictly between its invocation and its response -/
structure Timed where
  inv : Nat
  body : Nat
  res : Nat
  op : Op
  ret : Ret

/-- the execution semantics: bodies run one at a time (mutual exclusion), in the order of their `body` stamps;
    the list holds the operations in that order and `ret` is what each body returned -/
def ValidExec (o : Obj) : List Timed → Prop
  | [] => True
  | e :: rest => e.inv < e.body ∧ e.body < e.res ∧ (step E o e.op).2 = e.ret ∧
      (∀ e' ∈ rest, e.body < e'.body) ∧ ValidExec (step E o e.op).1 rest

/-- **linearizability**: the order of the bodies is a sequential order that explains every return value … -/
theorem exec_sequential (o : Obj) (evs : List Timed) (h : ValidExec E o evs) :
    (run E o (evs.map (·.op))).2 = evs.map (·.ret) := by
  induction evs generalizing o with
  | nil => rfl
  | cons e rest ih =>
    obtain ⟨_, _, hret, _, hrest⟩ := h
    simp only [List.map_cons, run]
    rw [ih _ hrest, hret]

theorem validExec_times (o : Obj) (l : List Timed) (h : ValidExec E o l) :
    ∀ x ∈ l, x.inv < x.body ∧ x.body < x.res := by
  induction l generalizing o with
  | nil => intro x hx; cases hx
  | cons a t ih =>
    obtain ⟨a1, a2, _, _, ht⟩ := h
    intro x hx
    rcases List.mem_cons.1 hx with rfl | hx
    · exact ⟨a1, a2⟩
    · exact ih _ ht x hx

/-- … and is consistent with real time: an operation that responded before another was invoked is ordered first -/
theorem exec_realtime (o : Obj) (evs : List Timed) (h : ValidExec E o evs) :
    ∀ i j (hi : i < evs.length) (hj : j < evs.length), evs[i].res < evs[j].inv → i < j := by
  induction evs generalizing o with
  | nil => intro i j hi; simp at hi
  | cons e rest ih =>
    obtain ⟨h1, h2, _, hall, hrest⟩ := h
    intro i j hi hj hlt
    cases i with
    | zero =>
      cases j with
      | zero => simp at hlt; omega
      | succ j => omega
    | succ i =>
      cases j with
      | zero =>
        -- rest[i] responded before e was invoked, but e's body precedes rest[i]'s body: impossible
        exfalso
        simp only [List.getElem_cons_succ, List.getElem_cons_zero] at hlt
        have hil : i < rest.length := by simpa using hi
        have hmem : rest[i] ∈ rest := List.getElem_mem hil
        have hb := hall _ hmem
        have := validExec_times E _ _ hrest _ hmem
        omega
      | succ j =>
        simp only [List.getElem_cons_succ] at hlt
        have := ih _ hrest i j (by simpa using hi) (by simpa using hj) hlt
        omega

/-! ### (3) tie: lock discipline of the code as it is now -/

open Extracted.Locks

def exported (m : Method) : Bool := (m.name.toList.headD 'a').isUpper

def find? (n : String) : Option Method := methods.find? (·.name == n)

/-- does the method, directly or through methods of the object it calls, touch / write mutable state? -/
def touchesT : Nat → Method → Bool
  | 0, m => m.touchesMutable
  | f+1, m => m.touchesMutable || m.callees.any fun c => match find? c with | some m' => touchesT f m' | none => false
def writesT : Nat → Method → Bool
  | 0, m => m.writesMutable
  | f+1, m => m.writesMutable || m.callees.any fun c => match find? c with | some m' => writesT f m' | none => false
/-- is the method only ever entered with the lock held (it takes it, or all its callers are such)? -/
def underLock : Nat → Method → Bool
  | 0, m => m.lock != "none"
  | f+1, m => m.lock != "none" ||
      (!exported m && (methods.filter fun c => c.callees.contains m.name).all fun c => underLock f c)
/-- does a method holding the lock call (transitively) another method that takes it (re-entrancy)? -/
def callsLocked : Nat → Method → Bool
  | 0, _ => false
  | f+1, m => m.callees.any fun c => match find? c with
      | some m' => m'.lock != "none" || callsLocked f m'
      | none => false

/-- **lock discipline**: every method that reaches mutable state runs under the lock (taken first, released by
    defer, nothing mutable touched before); writers hold the write lock; no locked method re-enters the lock -/
theorem discipline : methods.all (fun m =>
    (m.lock == "none" || (m.deferredUnlock && !m.touchesBeforeLock &&
        m.calleesBeforeLock.all fun c => match find? c with | some m' => !(touchesT 4 m') | none => false)) &&
    (!(touchesT 4 m) || underLock 4 m) &&
    (!(exported m && writesT 4 m) || m.lock == "Lock") &&
    (m.lock == "none" || !(callsLocked 4 m))) = true := by decide +kernel

/-- the operations the property lists all exist in the code -/
theorem methods_present : ["TrustedAdd", "VerifyAndAdd", "HasShare", "EnoughShares", "VerifyShare",
    "VerifyThresholdSignature", "ThresholdSignature"].all (fun n => (find? n).isSome) = true := by decide +kernel

end Props.C18

#print axioms Props.C18.step_inv
#print axioms Props.C18.run_inv
#print axioms Props.C18.readers_pure
#print axioms Props.C18.stateless_history_independent
#print axioms Props.C18.enough_monotone
#print axioms Props.C18.sig_stable
#print axioms Props.C18.stateful_never_invalid
#print axioms Props.C18.not_enough
#print axioms Props.C18.exec_sequential
#print axioms Props.C18.exec_realtime
#print axioms Props.C18.discipline
#print axioms Props.C18.methods_present
