import Props.C05
import Proofs.BlsFeldman

/-! # C05 (executable model ↔ group law) — the membership test of the decoders is the group-theoretic one.

`Bls.inG1` / `Bls.inG2` run the model's Jacobian double-and-add with the scalar `r`; by the group bridge
(`Proofs/CurveGroup`, `Proofs/CurveGroup2`) that test holds exactly for the points of order dividing `r` in Mathlib's
group of the curve, and the validity predicates of the codec theorems are the validity predicates of the bridge. Hence:
the public keys the model's decoder accepts are exactly the canonical encodings of the `r`-torsion points of
`E2(F_p²)`, the identity included. -/

namespace Props.C05Model
open Model Model.Curve

local notation "r" => Model.Bls.r

section E1
open Proofs.CurveGroup Proofs.CurveInst

/-- **the G1 membership test of the model is `r • P = 0` in the group of the curve** -/
theorem inG1_iff_torsion (P : Bls.P1) (hP : Valid Bls.p 0 4 P) :
    Bls.inG1 P = true ↔ r • toPoint Bls.p 0 4 P = 0 := Proofs.BlsConcrete.inG1_iff_torsion P hP

end E1

section E2
open Proofs.CurveGroup2 Proofs.CurveInst2

/-- **the G2 membership test of the model is `r • P = 0` in the group of the curve over `F_p²`** -/
theorem inG2_iff_torsion (P : Bls.P2) (hP : Valid Bls.p (0, 0) (4, 4) P) :
    Bls.inG2 P = true ↔ r • toPoint Bls.p (0, 0) (4, 4) P = 0 := Proofs.BlsConcrete.inG2_iff_torsion P hP

/-- **accepted BLS public keys are exactly the canonical encodings of the `r`-torsion points of `E2(F_p²)`** (as
    elements of Mathlib's group of the curve), the identity included -/
theorem bls_pk_accepts_iff_torsion (b : Bytes) (P : Bls.P2) :
    Bls.decodePublicKey b = some P ↔
      (Valid Bls.p (0, 0) (4, 4) P ∧ r • toPoint Bls.p (0, 0) (4, 4) P = 0 ∧ Bls.writeE2 P = b) := by
  rw [Props.C05.bls_pk_accepts_iff, valid_iff_codec]
  exact and_congr_right fun hv => and_congr_left' (inG2_iff_torsion P hv)

/-- the decoded key of two accepted byte strings is the same group element only if the strings are equal -/
theorem bls_pk_decode_injective (b b' : Bytes) (P P' : Bls.P2) (h : Bls.decodePublicKey b = some P)
    (h' : Bls.decodePublicKey b' = some P')
    (he : toPoint Bls.p (0, 0) (4, 4) P = toPoint Bls.p (0, 0) (4, 4) P') : b = b' := by
  obtain ⟨hv, _, hw⟩ := (bls_pk_accepts_iff_torsion b P).1 h
  obtain ⟨hv', _, hw'⟩ := (bls_pk_accepts_iff_torsion b' P').1 h'
  rw [← hw, ← hw', toPoint_inj Bls.p (0, 0) (4, 4) bls2_Δ P P' hv hv' he]

end E2

section sig
open Proofs.CurveGroup Proofs.CurveInst

/-- accepted signature strings are exactly the canonical encodings of the points of `E1(F_p)` (group bridge form) -/
theorem bls_sig_accepts_iff_point (b : Bytes) (P : Bls.P1) :
    Bls.readE1 b = .ok P ↔ (Valid Bls.p 0 4 P ∧ Bls.writeE1 P = b) := by
  rw [Props.C05.bls_sig_accepts_iff, valid_iff_codec]

/-- a raw ECDSA public key accepted on P-256 is a point of the bridge's group of the curve -/
theorem ecdsa_p256_pk_valid (b : Bytes) (Q : ℕ × ℕ) (h : Ecdsa.decodePublicKey Ecdsa.p256 b = some Q) :
    Valid Ecdsa.p256P p256a p256b (some Q) := by
  obtain ⟨_, _, h1, h2, hc⟩ := (Props.C05.ecdsa_pk_accepts_iff Ecdsa.p256 b Q).1 h
  obtain ⟨x, y⟩ := Q
  exact ⟨h1, h2, hc⟩

/-- the same on secp256k1 -/
theorem ecdsa_k256_pk_valid (b : Bytes) (Q : ℕ × ℕ) (h : Ecdsa.decodePublicKey Ecdsa.k256 b = some Q) :
    Valid Ecdsa.k256P 0 7 (some Q) := by
  obtain ⟨_, _, h1, h2, hc⟩ := (Props.C05.ecdsa_pk_accepts_iff Ecdsa.k256 b Q).1 h
  obtain ⟨x, y⟩ := Q
  exact ⟨h1, h2, hc⟩

end sig

/-- non-vacuity: the generator of G2 satisfies the right-hand side of `bls_pk_accepts_iff_torsion` -/
example : Bls.decodePublicKey (Bls.writeE2 Bls.g2) = some Bls.g2 :=
  (bls_pk_accepts_iff_torsion _ _).2 ⟨Proofs.CurveInst2.bls_g2_valid, Proofs.BlsFeldman.rG, rfl⟩

end Props.C05Model

#print axioms Props.C05Model.inG1_iff_torsion
#print axioms Props.C05Model.inG2_iff_torsion
#print axioms Props.C05Model.bls_pk_accepts_iff_torsion
#print axioms Props.C05Model.bls_pk_decode_injective
#print axioms Props.C05Model.bls_sig_accepts_iff_point
#print axioms Props.C05Model.ecdsa_p256_pk_valid
#print axioms Props.C05Model.ecdsa_k256_pk_valid
