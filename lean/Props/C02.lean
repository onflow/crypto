import Proofs.AbsMany
import Extracted.Guards

/-! # C02 — aggregate BLS verification equals the pairing-product definition -/

namespace Props.C02

variable {r : ℕ} [Fact r.Prime] {P : PairingGroups r}

/-- **pairing-product definition**, for every list, every grouping (map iteration order, equal points in
    distinct objects), and either C back end -/
theorem verifyMany_spec (C : Codec P) (entries : List (P.G1 × P.G2)) (sig : Bytes) (byMsg : Bool)
    (gm : List (P.G1 × List P.G2)) (gk : List (P.G2 × List P.G1))
    (hgm : (flattenByMsg gm).Perm entries) (hgk : (flattenByKey gk).Perm entries) :
    verifyManyCore C entries sig byMsg gm gk = true ↔
      (∀ x ∈ entries, x.2 ≠ 0) ∧ ∃ s : P.G1, sig = C.encode (P.ι s) ∧ P.e s P.g2 = pairingSum entries :=
  verifyManyCore_spec C entries sig byMsg gm gk hgm hgk

/-- with known private keys: true exactly when no key is the identity and the signature is the canonical
    encoding of `Σ sk_i • H_i(m_i)` -/
theorem verifyMany_iff_sum (C : Codec P) (hg : P.g2 ≠ 0) (es : List (ZMod r × P.G1)) (sig : Bytes) (byMsg : Bool)
    (gm : List (P.G1 × List P.G2)) (gk : List (P.G2 × List P.G1))
    (hgm : (flattenByMsg gm).Perm (es.map fun x => (x.2, x.1 • P.g2)))
    (hgk : (flattenByKey gk).Perm (es.map fun x => (x.2, x.1 • P.g2))) :
    verifyManyCore C (es.map fun x => (x.2, x.1 • P.g2)) sig byMsg gm gk = true ↔
      (∀ x ∈ es, x.1 ≠ 0) ∧ sig = C.encode (P.ι ((es.map fun x => x.1 • x.2).sum)) := by
  rw [verifyMany_spec C _ sig byMsg gm gk hgm hgk, pairingSum_scalars]
  simp only [List.forall_mem_map, P.e_g2_inj, exists_eq_right]
  exact and_congr_left' (forall₂_congr fun x _ => smul_ne_zero_iff_left hg)

/-- the verdict does not depend on the order of the triples, nor on the grouping or back end selected -/
theorem verifyMany_perm (C : Codec P) (entries entries' : List (P.G1 × P.G2)) (hp : entries.Perm entries')
    (sig : Bytes) (b b' : Bool) (gm gm' : List (P.G1 × List P.G2)) (gk gk' : List (P.G2 × List P.G1))
    (hgm : (flattenByMsg gm).Perm entries) (hgk : (flattenByKey gk).Perm entries)
    (hgm' : (flattenByMsg gm').Perm entries') (hgk' : (flattenByKey gk').Perm entries') :
    verifyManyCore C entries sig b gm gk = verifyManyCore C entries' sig b' gm' gk' := by
  rw [Bool.eq_iff_iff, verifyMany_spec C _ sig b gm gk hgm hgk, verifyMany_spec C _ sig b' gm' gk' hgm' hgk',
    pairingSum_perm hp]
  simp only [hp.mem_iff]

/-- keys that cancel on one message contribute nothing: `pk` and `-pk` on the same `h` -/
theorem pairingSum_cancel (h : P.G1) (pk : P.G2) (rest : List (P.G1 × P.G2)) :
    pairingSum ((h, pk) :: (h, -pk) :: rest) = pairingSum rest := by
  simp [pairingSum]

/-- repeated pairs are counted with multiplicity -/
theorem pairingSum_dup (h : P.G1) (pk : P.G2) (rest : List (P.G1 × P.G2)) :
    pairingSum ((h, pk) :: (h, pk) :: rest) = (2 : ZMod r) • P.e h pk + pairingSum rest := by
  simp [pairingSum, two_smul, add_assoc]

/-- `VerifyBLSSignatureOneMessage(pks, s, m, h)` equals `Verify` of `s` under the sum of `pks` -/
theorem verifyOne_eq (C : Codec P) (pks : List P.G2) (hne : pks ≠ []) (sig : Bytes) (h : P.G1) :
    verifyOneCore C pks sig h = .ok (verifyCore C pks.sum sig h) := by
  rw [verifyOneCore, aggPK_of_ne_nil hne]

theorem verifyOne_empty (C : Codec P) (sig : Bytes) (h : P.G1) :
    verifyOneCore C ([] : List P.G2) sig h = .error .emptyList := rfl

theorem pairingSum_same_msg (h : P.G1) (pks : List P.G2) :
    pairingSum (pks.map fun pk => (h, pk)) = P.e h pks.sum := by
  simp only [pairingSum, map_list_sum, List.map_map, Function.comp_def]

/-- one-message verification agrees with many-messages verification on the replicated message -/
theorem verifyOne_eq_many (C : Codec P) (pks : List P.G2) (hne : pks ≠ []) (hid : ∀ pk ∈ pks, pk ≠ 0)
    (hsum : pks.sum ≠ 0) (sig : Bytes) (h : P.G1) (b : Bool)
    (gm : List (P.G1 × List P.G2)) (gk : List (P.G2 × List P.G1))
    (hgm : (flattenByMsg gm).Perm (pks.map fun pk => (h, pk))) (hgk : (flattenByKey gk).Perm (pks.map fun pk => (h, pk))) :
    verifyOneCore C pks sig h = .ok (verifyManyCore C (pks.map fun pk => (h, pk)) sig b gm gk) := by
  rw [verifyOne_eq C pks hne]
  congr 1
  rw [Bool.eq_iff_iff, verifyCore_true_iff, verifyMany_spec C _ sig b gm gk hgm hgk, pairingSum_same_msg,
    List.forall_mem_map]
  exact and_congr_left' (iff_of_true hsum hid)

/-- tie: the guards of the Go function as they are now, in source order -/
theorem tie_guards (ls lp lm lk : Int) :
    Extracted.Guards.crypto_VerifyBLSSignatureManyMessages_g0 ls = decide (ls ≠ 48) ∧
    Extracted.Guards.crypto_VerifyBLSSignatureManyMessages_g1 lp = decide (lp = 0) ∧
    Extracted.Guards.crypto_VerifyBLSSignatureManyMessages_g2 lk lm lp = (decide (lp ≠ lm) || decide (lk ≠ lm)) :=
  ⟨rfl, rfl, rfl⟩

end Props.C02

#print axioms Props.C02.verifyMany_spec
#print axioms Props.C02.verifyMany_iff_sum
#print axioms Props.C02.verifyMany_perm
#print axioms Props.C02.pairingSum_cancel
#print axioms Props.C02.pairingSum_dup
#print axioms Props.C02.verifyOne_eq
#print axioms Props.C02.verifyOne_empty
#print axioms Props.C02.verifyOne_eq_many
#print axioms Props.C02.tie_guards
