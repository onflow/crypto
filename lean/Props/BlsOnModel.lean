import Proofs.BlsConcrete2
import Props.C02
import Props.C16
import Props.C17
import Props.C01Model

/-! # The abstract BLS theorems of C02, C16, C17 on the groups of the executable model

`Proofs/BlsConcrete.lean` instantiates the pairing setting with the groups `Model.Curve` computes in; the pairing is
the only parameter. Here the acceptance theorems of aggregate verification, proofs of possession and SPoCK are stated
for that instance, with the right-hand sides written in the functions of the model the correspondence run executes
(`Bls.signPoint`, `Bls.publicKeyOf`, `Bls.writeE2`, `Curve.sum`): for EVERY bilinear map on the `r`-torsion groups that
is non-degenerate at `g2`. -/

namespace Props.BlsOnModel
open Model Proofs.BlsConcrete Proofs.CurveGroup Proofs.CurveInst

local notation "r" => Model.Bls.r

def encPk : G2 → Model.Bytes := fun pk => encodePk pk.1

theorem coe_list_sum (l : List G1) : ((l.sum : G1) : E1P) = (l.map fun x : G1 => x.1).sum := by
  induction l with
  | nil => rfl
  | cons x t ih => rw [List.sum_cons, List.map_cons, List.sum_cons, AddSubgroup.coe_add, ih]

variable (GT : Type) [AddCommGroup GT] [Module (ZMod r) GT] (e : G1 →ₗ[ZMod r] G2 →ₗ[ZMod r] GT)
  (nd : ∀ s : G1, e s g2 = 0 → s = 0)
  (Hm : Model.Bytes → Bls.P1) (hv : ∀ b, Valid Bls.p 0 4 (Hm b)) (hG : ∀ b, Bls.inG1 (Hm b) = true)

/-- a hash-to-curve function of the model with values in the subgroup, as a function into `G1` -/
noncomputable def Hg : Model.Bytes → G1 := fun b => mkG1 (Hm b) (hv b) (hG b)

/-- **C16 on the model's groups**: a proof of possession verifies under `sk • g2` exactly when it is the model's
    signature of the key's own encoding - `signPoint sk (H (writeE2 (publicKeyOf sk)))` -/
theorem model_pop_iff (sk : ZMod r) (hsk : sk ≠ 0) (pop : Model.Bytes) :
    Props.C16.popVerify (codec GT e nd) encPk (Hg Hm hv hG) (sk • (concrete GT e nd).g2) pop = true ↔
      pop = Bls.signPoint sk.val (Hm (Bls.writeE2 (Bls.publicKeyOf sk.val))) := by
  rw [Props.C16.pop_iff (codec GT e nd) encPk (Hg Hm hv hG) sk hsk g2_ne_zero pop]
  unfold Props.C16.popGen
  have h1 : encPk (sk • (concrete GT e nd).g2) = Bls.writeE2 (Bls.publicKeyOf sk.val) := encodePk_smul_g2 sk
  rw [h1]
  show pop = encodeF ((sk • mkG1 _ _ _ : G1) : E1P) ↔ _
  rw [encode_smul]

/-- **C17 on the model's groups**: proofs of the same data by two keys verify -/
theorem model_spock_honest (sk1 sk2 : ZMod r) (h1 : sk1 ≠ 0) (h2 : sk2 ≠ 0) (H : Bls.P1) (hv' : Valid Bls.p 0 4 H)
    (hG' : Bls.inG1 H = true) :
    spockVerify (codec GT e nd) (sk1 • (concrete GT e nd).g2) (Bls.signPoint sk1.val H)
      (sk2 • (concrete GT e nd).g2) (Bls.signPoint sk2.val H) = true := by
  rw [← encode_smul sk1 H hv' hG', ← encode_smul sk2 H hv' hG']
  exact Props.C17.spock_honest (codec GT e nd) sk1 sk2 h1 h2 g2_ne_zero (mkG1 H hv' hG')

/-- proofs over data with different hash points do not verify -/
theorem model_spock_other_data (sk1 sk2 : ZMod r) (h1 : sk1 ≠ 0) (h2 : sk2 ≠ 0) (H H' : Bls.P1)
    (hv1 : Valid Bls.p 0 4 H) (hG1 : Bls.inG1 H = true) (hv2 : Valid Bls.p 0 4 H') (hG2 : Bls.inG1 H' = true)
    (hne : H ≠ H') :
    spockVerify (codec GT e nd) (sk1 • (concrete GT e nd).g2) (Bls.signPoint sk1.val H)
      (sk2 • (concrete GT e nd).g2) (Bls.signPoint sk2.val H') = false := by
  rw [← encode_smul sk1 H hv1 hG1, ← encode_smul sk2 H' hv2 hG2]
  refine Props.C17.spock_other_data (codec GT e nd) sk1 sk2 h1 h2 (mkG1 H hv1 hG1) (mkG1 H' hv2 hG2) ?_
  intro h
  apply hne
  exact toPoint_inj Bls.p 0 4 bls_Δ _ _ hv1 hv2 (congrArg Subtype.val h)

/-- a SPoCK proof checked against an honest proof of the same data is a signature check -/
theorem model_spock_vs_verify (sk1 sk2 : ZMod r) (h1 : sk1 ≠ 0) (h2 : sk2 ≠ 0) (H : Bls.P1) (hv' : Valid Bls.p 0 4 H)
    (hG' : Bls.inG1 H = true) (p2 : Model.Bytes) :
    spockVerify (codec GT e nd) (sk1 • (concrete GT e nd).g2) (Bls.signPoint sk1.val H)
      (sk2 • (concrete GT e nd).g2) p2 = true ↔ p2 = Bls.signPoint sk2.val H := by
  rw [← encode_smul sk1 H hv' hG']
  have := Props.C17.spock_vs_verify (codec GT e nd) sk1 sk2 h1 h2 g2_ne_zero (mkG1 H hv' hG') p2
  rw [show signCore (codec GT e nd) sk1 (mkG1 H hv' hG') = encodeF ((sk1 • mkG1 H hv' hG' : G1) : E1P) from rfl] at this
  unfold pubOf at this
  exact this.trans (Props.C01Model.model_verify_iff GT e nd sk2 h2 p2 H hv' hG')

theorem encode_sum (es : List (ZMod r × Model.Bytes)) :
    encodeF (((es.map fun x => x.1 • Hg Hm hv hG x.2).sum : G1) : E1P) =
      Bls.writeE1 (Curve.sum Bls.E1 (es.map fun x => Curve.mul Bls.E1 x.1.val (Hm x.2))) := by
  have term : ∀ x : ZMod r × Model.Bytes, Curve.mul Bls.E1 x.1.val (Hm x.2) =
      ofPoint Bls.p 0 4 ((x.1 • Hg Hm hv hG x.2 : G1) : E1P) := fun x => by
    rw [mul_E1 _ (Bls.val_bits _) _ (hv x.2), torsion_smul]; rfl
  simp only [term]
  unfold encodeF
  rw [sum_E1 _ (fun P hP => by obtain ⟨x, _, rfl⟩ := List.mem_map.1 hP; exact valid_ofPoint ..), coe_list_sum,
    List.map_map, List.map_map]
  exact congrArg (fun f => Bls.writeE1 (ofPoint Bls.p 0 4 (es.map f).sum)) (funext fun x => (toPoint_ofPoint ..).symm)

/-- **C02 on the model's groups**: for keys `sk_i • g2` and messages `m_i`, whatever grouping and back end the code
    selects, aggregate verification accepts exactly the model's aggregate of the individual signatures (and no key
    may be the identity) -/
theorem model_verifyMany_iff (es : List (ZMod r × Model.Bytes)) (sig : Model.Bytes) (byMsg : Bool)
    (gm : List (G1 × List G2)) (gk : List (G2 × List G1))
    (hgm : (flattenByMsg (P := concrete GT e nd) gm).Perm
      ((es.map fun x => (x.1, Hg Hm hv hG x.2)).map fun x => (x.2, x.1 • (concrete GT e nd).g2)))
    (hgk : (flattenByKey (P := concrete GT e nd) gk).Perm
      ((es.map fun x => (x.1, Hg Hm hv hG x.2)).map fun x => (x.2, x.1 • (concrete GT e nd).g2))) :
    verifyManyCore (codec GT e nd)
        ((es.map fun x => (x.1, Hg Hm hv hG x.2)).map fun x => (x.2, x.1 • (concrete GT e nd).g2)) sig byMsg gm gk = true ↔
      (∀ x ∈ es, x.1 ≠ 0) ∧
        sig = Bls.writeE1 (Curve.sum Bls.E1 (es.map fun x => Curve.mul Bls.E1 x.1.val (Hm x.2))) := by
  refine (Props.C02.verifyMany_iff_sum (codec GT e nd) g2_ne_zero (es.map fun x : ZMod r × Model.Bytes => (x.1, Hg Hm hv hG x.2)) sig byMsg
    gm gk hgm hgk).trans ?_
  rw [← encode_sum Hm hv hG es]
  constructor
  · rintro ⟨h1, h2⟩
    refine ⟨fun x hx => h1 (x.1, Hg Hm hv hG x.2) (List.mem_map.2 ⟨x, hx, rfl⟩), ?_⟩
    rw [h2, List.map_map]; rfl
  · rintro ⟨h1, h2⟩
    refine ⟨?_, ?_⟩
    · intro x hx
      obtain ⟨y, hy, rfl⟩ := List.mem_map.1 hx
      exact h1 y hy
    · rw [h2, List.map_map]; rfl

end Props.BlsOnModel

#print axioms Props.BlsOnModel.model_verifyMany_iff

#print axioms Props.BlsOnModel.model_pop_iff
#print axioms Props.BlsOnModel.model_spock_honest
#print axioms Props.BlsOnModel.model_spock_other_data
#print axioms Props.BlsOnModel.model_spock_vs_verify
