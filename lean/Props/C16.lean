import Props.C01
import Extracted.Consts

/-! # C16 — proofs of possession are sound and domain-separated from every signature -/

namespace Props.C16
open Props.C01

variable {r : ℕ} [Fact r.Prime] {P : PairingGroups r}

/-- `BLSVerifyPOP(pk, pop)`: `Verify` of the public key's own encoding under the PoP hasher -/
def popVerify (C : Codec P) (encPk : P.G2 → Bytes) (Hpop : Bytes → P.G1) (pk : P.G2) (pop : Bytes) : Bool :=
  verifyCore C pk pop (Hpop (encPk pk))

/-- `BLSGeneratePOP(sk)` -/
def popGen (C : Codec P) (encPk : P.G2 → Bytes) (Hpop : Bytes → P.G1) (sk : ZMod r) : Bytes :=
  signCore C sk (Hpop (encPk (sk • P.g2)))

/-- **a PoP verifies exactly when it is the one generated by the key's private key** -/
theorem pop_iff (C : Codec P) (encPk : P.G2 → Bytes) (Hpop : Bytes → P.G1) (sk : ZMod r) (hsk : sk ≠ 0)
    (hg : P.g2 ≠ 0) (pop : Bytes) :
    popVerify C encPk Hpop (sk • P.g2) pop = true ↔ pop = popGen C encPk Hpop sk :=
  verifyCore_iff C sk hsk hg pop _

/-- never under the identity key -/
theorem pop_identity_false (C : Codec P) (encPk : P.G2 → Bytes) (Hpop : Bytes → P.G1) (pop : Bytes) :
    popVerify C encPk Hpop 0 pop = false := verifyCore_identity_key C pop _

/-- under no other key: the PoP of `sk` does not verify for `sk' • g2` unless it is also `sk'`'s PoP -/
theorem pop_other_key (C : Codec P) (encPk : P.G2 → Bytes) (Hpop : Bytes → P.G1) (sk sk' : ZMod r)
    (hsk' : sk' ≠ 0) (hg : P.g2 ≠ 0)
    (hne : popGen C encPk Hpop sk ≠ popGen C encPk Hpop sk') :
    popVerify C encPk Hpop (sk' • P.g2) (popGen C encPk Hpop sk) = false := by
  rw [← Bool.not_eq_true, pop_iff C encPk Hpop sk' hsk' hg]
  exact hne

/-- **the KMAC keys are distinct for every application tag**: `tag ++ signature suite ≠ PoP suite`
    (re-proved on every run against the strings the code has now) -/
theorem suite_keys_distinct (tag : String) :
    tag ++ Extracted.Consts.crypto_blsSigCipherSuite ≠ Extracted.Consts.crypto_blsPOPCipherSuite := by
  intro h
  have hs : Extracted.Consts.crypto_blsSigCipherSuite.toList <:+ Extracted.Consts.crypto_blsPOPCipherSuite.toList := by
    rw [← h, String.toList_append]
    exact List.suffix_append _ _
  revert hs
  decide

/-- **domain separation** (given collision-freeness of the keyed hash-to-curve as an explicit hypothesis):
    no signature produced under any tag — in particular a signature of the public-key bytes — verifies as a
    proof of possession, and no proof of possession verifies as a signature under any tag. -/
theorem pop_sig_separation (C : Codec P) (encPk : P.G2 → Bytes) (Hk : String → Bytes → P.G1)
    (hsep : ∀ k k' m m', k ≠ k' → Hk k m ≠ Hk k' m')
    (sk : ZMod r) (hsk : sk ≠ 0) (hg : P.g2 ≠ 0) (tag : String) (m : Bytes) :
    popVerify C encPk (Hk Extracted.Consts.crypto_blsPOPCipherSuite) (sk • P.g2)
        (signCore C sk (Hk (tag ++ Extracted.Consts.crypto_blsSigCipherSuite) m)) = false ∧
    verifyCore C (sk • P.g2) (popGen C encPk (Hk Extracted.Consts.crypto_blsPOPCipherSuite) sk)
        (Hk (tag ++ Extracted.Consts.crypto_blsSigCipherSuite) m) = false := by
  constructor
  · exact other_message_rejected C sk hsk hg _ _ (hsep _ _ _ _ (suite_keys_distinct tag))
  · exact other_message_rejected C sk hsk hg _ _ (hsep _ _ _ _ (suite_keys_distinct tag).symm)

end Props.C16

#print axioms Props.C16.pop_iff
#print axioms Props.C16.pop_identity_false
#print axioms Props.C16.pop_other_key
#print axioms Props.C16.suite_keys_distinct
#print axioms Props.C16.pop_sig_separation
