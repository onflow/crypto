import Proofs.AbsBls
import Mathlib.Tactic.Ring
import Mathlib.Tactic.NormNum.Prime
import Extracted.Guards
import Extracted.Consts
import Proofs.E1Codec
import Model.HashToCurve

/-! # C01 — BLS Verify accepts exactly the one signature `sk • H(m)` per key, message, hasher

Property theorems over the abstract pairing setting (`Proofs/AbsBls.lean`): every group structure with a
bilinear non-degenerate pairing, every hash-to-curve function `H`, every codec satisfying the codec laws. -/

namespace Props.C01

variable {r : ℕ} [Fact r.Prime] {P : PairingGroups r}

/-- **Verify accepts exactly one 48-byte string, the one Sign returns** (non-zero private key, any
    message, any 128-byte-output hasher). -/
theorem verify_iff (C : Codec P) (H : Bytes → P.G1) (sk : ZMod r) (hsk : sk ≠ 0) (hg : P.g2 ≠ 0)
    (k : Hasher) (hk : k.size = 128) (sig data : Bytes) :
    verify C H (sk • P.g2) sig data (some k) = .ok true ↔ sign C H sk data (some k) = .ok sig := by
  rw [verify_some C H _ sig data hk, sign_some C H sk data hk, Except.ok.injEq, Except.ok.injEq,
    verifyCore_iff C sk hsk hg, eq_comm]

/-- every other input yields `(false, nil)`: the verdict is a boolean without error whenever the hasher is valid -/
theorem verify_total (C : Codec P) (H : Bytes → P.G1) (pk : P.G2) (k : Hasher) (hk : k.size = 128)
    (sig data : Bytes) : ∃ b, verify C H pk sig data (some k) = .ok b :=
  ⟨_, verify_some C H pk sig data hk⟩

/-- what Sign returns verifies -/
theorem sign_verifies (C : Codec P) (H : Bytes → P.G1) (sk : ZMod r) (hsk : sk ≠ 0) (hg : P.g2 ≠ 0)
    (k : Hasher) (hk : k.size = 128) (data sig : Bytes) (hs : sign C H sk data (some k) = .ok sig) :
    verify C H (sk • P.g2) sig data (some k) = .ok true :=
  (verify_iff C H sk hsk hg k hk sig data).2 hs

/-- another message / tag / hasher whose hash-to-curve image differs: the signature is rejected -/
theorem other_message_rejected (C : Codec P) (sk : ZMod r) (hsk : sk ≠ 0) (hg : P.g2 ≠ 0)
    (h h' : P.G1) (hne : h ≠ h') : verifyCore C (sk • P.g2) (signCore C sk h) h' = false := by
  rw [← Bool.not_eq_true, verifyCore_iff C sk hsk hg, signCore_inj]
  exact fun e => hne (smul_right_injective _ hsk e)

/-- another key: the signature of `sk` does not verify under `sk' • g2` unless it is also `sk'`'s signature -/
theorem other_key_rejected (C : Codec P) (sk sk' : ZMod r) (hsk' : sk' ≠ 0) (hg : P.g2 ≠ 0)
    (h : P.G1) (hne : sk • h ≠ sk' • h) : verifyCore C (sk' • P.g2) (signCore C sk h) h = false := by
  rw [← Bool.not_eq_true, verifyCore_iff C sk' hsk' hg, signCore_inj]
  exact hne

/-- a curve point outside the prime-order subgroup (e.g. `s + T`, `T` of small order) is rejected -/
theorem outside_subgroup_rejected (C : Codec P) (pk : P.G2) (x : P.E1) (hx : P.toG1 x = none) (h : P.G1) :
    verifyCore C pk (C.encode x) h = false := by
  rw [← Bool.not_eq_true, verifyCore_true_iff]
  rintro ⟨-, s, hs, -⟩
  rw [C.encode_injective hs, P.toG1_ι] at hx
  cases hx

/-- any string the codec rejects, and any string of another length, is rejected -/
theorem malformed_rejected (C : Codec P) (pk : P.G2) (sig : Bytes) (h : P.G1)
    (hbad : sig.length ≠ 48 ∨ C.decode sig = none) : verifyCore C pk sig h = false := by
  rw [← Bool.not_eq_true, verifyCore_true_iff]
  rintro ⟨-, s, rfl, -⟩
  rcases hbad with hl | hd
  · exact hl (C.length_encode _)
  · rw [C.dec_enc] at hd; cases hd

/-- the identity signature never verifies under a non-identity key when `H(m) ≠ 0`; and never under the identity key -/
theorem identity_signature_rejected (C : Codec P) (sk : ZMod r) (hsk : sk ≠ 0) (hg : P.g2 ≠ 0) (h : P.G1)
    (hh : h ≠ 0) : verifyCore C (sk • P.g2) (C.encode 0) h = false := by
  rw [← Bool.not_eq_true, verifyCore_iff C sk hsk hg, signCore, ← map_zero P.ι, C.encode_ι_inj, eq_comm,
    smul_eq_zero_iff_right hsk]
  exact hh

/-- **verification under the identity public key is false for every signature** -/
theorem identity_key_rejects_all (C : Codec P) (H : Bytes → P.G1) (k : Hasher) (hk : k.size = 128)
    (sig data : Bytes) : verify C H 0 sig data (some k) = .ok false := by
  rw [verify_some C H 0 sig data hk, verifyCore_identity_key]

/-- hasher guards: nil ⇒ nil-hasher error, size ≠ 128 ⇒ hasher-size error, before anything else -/
theorem hasher_guard (C : Codec P) (H : Bytes → P.G1) (pk : P.G2) (sk : ZMod r) (sig data : Bytes) :
    verify C H pk sig data none = .error .nilHasher ∧ sign C H sk data none = .error .nilHasher ∧
    ∀ k : Hasher, k.size ≠ 128 →
      verify C H pk sig data (some k) = .error .hasherSize ∧ sign C H sk data (some k) = .error .hasherSize := by
  refine ⟨rfl, rfl, ?_⟩
  intro k hk
  simp [verify, sign, checkHasher, hk]

/-! ### tie: the guards of the code as it is now -/

theorem tie_guards (len size : Int) :
    Extracted.Guards.crypto_pubKeyBLSBLS12381_Verify_g1 len = decide (len ≠ 48) ∧
    Extracted.Guards.crypto_checkBLSHasher_g1 size = decide (size ≠ 128) ∧
    Extracted.Guards.crypto_checkBLSHasher_g0 true = true ∧
    Extracted.Guards.crypto_pubKeyBLSBLS12381_Verify_g2 true = true ∧
    Extracted.Consts.crypto_expandMsgOutput = 128 ∧ Extracted.Consts.crypto__Ciconst_MAP_TO_G1_INPUT_LEN = 128 ∧
    Extracted.Consts.crypto_SignatureLenBLSBLS12381 = 48 := by
  refine ⟨rfl, rfl, rfl, rfl, by decide, by decide, by decide⟩

/-! ### the `Codec` laws assumed above hold for the executable model of `E1_read_bytes` / `E1_write_bytes` -/

/-- the three laws of the structure `Codec` (`dec_enc`, `enc_dec`, `len`), proved for `Model.Bls.readE1` /
    `Model.Bls.writeE1` on the reduced points of the curve (the model the correspondence run compares with the
    C functions): they are theorems about the concrete byte format, not assumptions -/
theorem concrete_codec_laws :
    (∀ Q : Model.Bls.P1, Proofs.E1Codec.Valid Q → Model.Bls.readE1 (Model.Bls.writeE1 Q) = .ok Q) ∧
    (∀ (b : Model.Bytes) (Q : Model.Bls.P1), Model.Bls.readE1 b = .ok Q →
        Model.Bls.writeE1 Q = b ∧ Proofs.E1Codec.Valid Q) ∧
    (∀ (b : Model.Bytes) (Q : Model.Bls.P1), Model.Bls.readE1 b = .ok Q → b.length = 48) := by
  refine ⟨Proofs.E1Codec.e1_roundtrip, ?_, ?_⟩
  · intro b Q h
    exact ⟨Proofs.E1Codec.e1_canonical b Q h, Proofs.E1Codec.e1_accepts_valid b Q h⟩
  · intro b Q h
    unfold Model.Bls.readE1 at h
    split at h
    · cases h
    · omega

/-- **one encoding per signature point**: two byte strings that `E1_read_bytes` maps to the same point are the
    same byte string, so a valid signature has exactly one accepted encoding -/
theorem signature_encoding_unique (b b' : Model.Bytes) (Q : Model.Bls.P1)
    (h : Model.Bls.readE1 b = .ok Q) (h' : Model.Bls.readE1 b' = .ok Q) : b = b' :=
  Proofs.E1Codec.e1_unique_encoding b b' Q h h'

/-! ### non-vacuity: the hypotheses are satisfiable (toy instance: G1 = G2 = GT = ZMod 7, E1 = ZMod 7 × ZMod 3) -/

instance : Fact (Nat.Prime 7) := ⟨by norm_num⟩

def toy : PairingGroups 7 where
  E1 := ZMod 7 × ZMod 3
  G1 := ZMod 7
  G2 := ZMod 7
  GT := ZMod 7
  ι := AddMonoidHom.inl (ZMod 7) (ZMod 3)
  ι_inj := fun a b h => by simpa using congrArg Prod.fst h
  toG1 := fun x => if x.2 = 0 then some x.1 else none
  toG1_iff := by
    intro x s
    constructor
    · intro h
      split at h
      · next h2 => cases h; ext <;> simp [h2]
      · cases h
    · rintro rfl; simp
  e := LinearMap.mk₂ (ZMod 7) (fun a b => a * b) (by intros; ring) (by intros; simp; ring) (by intros; ring)
    (by intros; simp; ring)
  g2 := 1
  nondeg_g2 := by intro a h; simpa using h

example : toy.g2 ≠ 0 := by show (1 : ZMod 7) ≠ 0; decide
/-- in the toy instance there is a point outside the subgroup: `(s, 1)` -/
example : toy.toG1 ((3 : ZMod 7), (1 : ZMod 3)) = none := by
  show (if (1 : ZMod 3) = 0 then some (3 : ZMod 7) else none) = none
  decide

/-! ### the concrete hash-to-curve the driver runs (`Model/HashToCurve.lean`)

The acceptance theorems above hold for *every* hash-to-curve function `H : Bytes → G1`. The model also carries the
one the library uses - KMAC128 expand-message, two field elements, simplified SWU to the 11-isogenous curve, isogeny,
cofactor clearing - written from RFC 9380, so that `Sign` is predicted from `(sk, tag, message)` alone and compared
with the implementation on every run (`sign-from-message`, `pop-gen-from-key`, `map-to-g1`). The facts below are
kernel evaluations on samples (tests, labelled as tests): they guard the generated isogeny constants. -/

open Model Model.H2C in
/-- the SWU images of sample field elements, including the exceptional case `u = 0`, lie on E1' -/
example : Curve.onCurve E1' (sswu 0) = true ∧ Curve.onCurve E1' (sswu 1) = true ∧
    Curve.onCurve E1' (sswu (Bls.p - 1)) = true ∧ Curve.onCurve E1' (sswu 0x1234567890abcdef) = true := by decide +kernel

open Model Model.H2C in
/-- the 11-isogeny (constants regenerated from blst's source by `tools/gen_iso.py`) sends a point of E1' to a point of E1 -/
example : Curve.onCurve Bls.E1 (iso (sswu 5)) = true ∧ (iso (sswu 5)).isSome = true := by decide +kernel

open Model Model.H2C in
/-- `map_to_G1` of 128 bytes whose two halves exceed `p` is a point of the prime-order subgroup G1 -/
example : Bls.inG1 (mapToG1 (List.replicate 128 0xff)) = true ∧ (mapToG1 (List.replicate 128 0xff)).isSome = true := by
  decide +kernel

open Model Model.H2C in
/-- `Sign` from the message is `sk • H(m)` compressed, with `H = mapToG1 ∘ expand` (definitional) -/
theorem sign_from_message (suite : Model.Bytes) (sk : Nat) (tag msg : Model.Bytes) :
    H2C.sign suite sk tag msg = Bls.signPoint sk (mapToG1 (expand suite tag msg)) := rfl

end Props.C01

#print axioms Props.C01.verify_iff
#print axioms Props.C01.verify_total
#print axioms Props.C01.sign_verifies
#print axioms Props.C01.other_message_rejected
#print axioms Props.C01.other_key_rejected
#print axioms Props.C01.outside_subgroup_rejected
#print axioms Props.C01.malformed_rejected
#print axioms Props.C01.identity_signature_rejected
#print axioms Props.C01.identity_key_rejects_all
#print axioms Props.C01.hasher_guard
#print axioms Props.C01.tie_guards
#print axioms Props.C01.concrete_codec_laws
#print axioms Props.C01.signature_encoding_unique
#print axioms verifyCore_iff
#print axioms pairingCheck_iff
#print axioms Props.C01.sign_from_message
