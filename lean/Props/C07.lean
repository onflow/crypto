import Model.Dkg
import Proofs.DkgHandlers
import Proofs.DkgRounds
import Proofs.DkgJoint
import Proofs.DkgShare
import Proofs.DkgAgree
import Proofs.DkgNonzero
import Proofs.DkgJointAgree
import Proofs.DkgJointEnd
import Proofs.DkgEmit
import Proofs.DkgAnswer
import Driver.Dkg

/-! # C07 — DKG: honest participants agree on the verdict and on consistent keys

Model-level theorems about what `End` returns (every crypto-operations record, every state), and the
**schedule quantifier**: at an honest participant of Feldman-VSS-Qual other than the dealer, any two deliveries
the network may reorder commute (`delivery_pair_commutes`), the state after a round does not depend on the
delivery order (`round_order_independent`), and `End` returns the same verdict and keys for every delivery
order of each round (`end_result_order_independent`); the same for Joint-Feldman, where the participant is also
the dealer of one of the `n` parallel instances (`joint_end_order_independent`). **Agreement between different
participants** of one Feldman-VSS-Qual execution is `honest_receivers_agree` (`Proofs/DkgAgree.lean`): two honest
participants that are not the dealer leave `End` with the same public result under reliable broadcast and round
synchrony, for every behaviour of everybody else and every delivery order. For Joint-Feldman the closed statement on
executions of the model's API is `joint_feldman_agreement`: the instances of third-party dealers agree by
`joint_instances_agree`; for the two instances the participants deal themselves the comparison is between the dealer's
own view and a receiver's (`honest_dealer_instance_views_agree`), under honest-dealer delivery (`OwnNet`). -/

namespace Props.C07
open Model Model.Dkg

variable {O : Ops}

/-- Feldman-VSS-Qual: when `End` returns keys the dealer is not disqualified, no registered complaint is
    unanswered, the keys are those of the one stored valid vector, and the private share is non-zero -/
theorem fvssq_keys_shape (s : St O) (x : Nat) (Y : Bytes) (ys : List Bytes)
    (hk : (FvssQ.endBody s).2.2 = .keys x Y ys) :
    s.disqualified = false ∧
    s.complaints.any (fun kc => kc.2.received && !kc.2.answerReceived) = false ∧
    ∃ v, s.vA = some v ∧ Y = O.groupKey v ∧ ys = O.pubShares v ∧ x = s.x ∧ x ≠ 0 ∧
      O.groupKeyIsIdentity v = false := by
  obtain ⟨ex, h0, hp⟩ := Proofs.DkgAgree.endRes_keys (s := s) hk
  obtain ⟨hd, hu, v, hv, hi, e⟩ := Proofs.DkgAgree.pubRes_some hp
  exact ⟨hd, hu, v, hv, (Prod.mk.inj e).1, (Prod.mk.inj e).2, ex, h0, hi⟩

/-- the verdict of `End` is a function of the disqualification flag, the complaint table, the stored vector
    and share: two instances that agree on these return the same result -/
theorem end_verdict_function (s s' : St O) (h1 : s.disqualified = s'.disqualified)
    (h2 : s.complaints = s'.complaints) (h3 : s.vA = s'.vA) (h4 : s.x = s'.x) :
    (FvssQ.endBody s).2.2 = (FvssQ.endBody s').2.2 := by
  show Proofs.DkgCommute.endRes s = Proofs.DkgCommute.endRes s'
  rw [Proofs.DkgCommute.endRes_eq, Proofs.DkgCommute.endRes_eq, h1, h2, h3, h4]

/-- Joint-Feldman: `End` fails when more than `t` dealers are disqualified or fewer than `t+1` remain;
    otherwise the keys are the sums over the qualified instances -/
theorem joint_end_shape (j : JSt O) (hr : j.jointRunning = true)
    (ht : j.fvss.any (fun s => !s.sharesTimeout || !s.complaintsTimeout) = false) :
    let fv := (j.fvss.map FvssQ.settle).map (·.1)
    let disq := (fv.filter (·.disqualified)).length
    (disq > j.threshold ∨ j.size - disq ≤ j.threshold → (Joint.end_ j).2.2 = .failure) ∧
    (Joint.end_ j).1.jointRunning = false := by
  unfold Joint.end_
  simp only [hr, ht, Bool.not_true, Bool.false_eq_true, ↓reduceIte]
  constructor
  · intro h
    rw [if_pos h]
  · -- every branch returns the stopped participant
    split
    · rfl
    · split
      · rfl
      · split
        · rfl
        · split <;> rfl

open Proofs.DkgCommute in
/-- the state of a participant other than the dealer right after `Start` satisfies the invariants -/
theorem inv_after_start (size threshold me dealer : Nat) (h : me ≠ dealer) :
    Inv ({ size := size, threshold := threshold, me := me, dealer := dealer, running := true } : St O) :=
  inv_empty _ h rfl rfl

open Proofs.DkgCommute in
/-- that state is what `Start` produces at a non-dealer -/
theorem start_state (size threshold me dealer : Nat) (h : dealer ≠ me) (seed : Bytes) :
    (Dkg.start ({ size := size, threshold := threshold, me := me, dealer := dealer } : St O) seed).1 =
      { size := size, threshold := threshold, me := me, dealer := dealer, running := true } := by
  unfold Dkg.start Dkg.startBody
  simp [h]

open Proofs.DkgCommute in
/-- **any two deliveries that the network may reorder commute**: broadcasts of different senders, or the private
    and the broadcast channel of one sender; both orders end disqualified (every later message is then ignored and
    `End` fails) or in the same state up to the order of the complaint table -/
theorem delivery_pair_commutes (s : St O) (inv : Inv s) (e1 e2 : Dl) (hr : reorderable e1 e2) :
    RelP (step (step s e1) e2) (step (step s e2) e1) := step_pair s inv e1 e2 hr

open Proofs.DkgCommute in
/-- **the state after a round does not depend on the delivery order**: two delivery orders with the same stream
    of messages per sender and channel lead to related states -/
theorem round_order_independent (s : St O) (inv : Inv s) (l1 l2 : List Dl) (h : ∀ c, stream l1 c = stream l2 c) :
    RelP (runList s l1) (runList s l2) := round_independent s inv l1 l2 (swaps_of_streams l1 l2 h)

open Proofs.DkgCommute in
/-- **`End` returns the same result for every delivery order**: three rounds of deliveries separated by the two
    timeouts, each round in any order that keeps every sender's broadcasts in order and every sender's private
    messages in order -/
theorem end_result_order_independent (s : St O) (inv : Inv s) (r1 r1' r2 r2' r3 r3' : List Dl)
    (h1 : ∀ c, stream r1 c = stream r1' c) (h2 : ∀ c, stream r2 c = stream r2' c)
    (h3 : ∀ c, stream r3 c = stream r3' c) : exec s r1 r2 r3 = exec s r1' r2' r3' :=
  exec_order_independent s inv r1 r1' r2 r2' r3 r3' h1 h2 h3

open Proofs.DkgCommute in
/-- **Joint-Feldman**: all `n` instances of a participant (its own dealing and the `n-1` it receives) see the same
    deliveries; the result of `End` (failure, or private share / group key / key shares) is the same for every
    delivery order of the three rounds -/
theorem joint_end_order_independent (size threshold : Nat) (L : List (St O)) (hinv : ∀ s ∈ L, InvAny s)
    (r1 r1' r2 r2' r3 r3' : List Dl) (h1 : ∀ c, stream r1 c = stream r1' c) (h2 : ∀ c, stream r2 c = stream r2' c)
    (h3 : ∀ c, stream r3 c = stream r3' c) :
    jres size threshold (L.map (fun s => runRounds s r1 r2 r3)) =
      jres size threshold (L.map (fun s => runRounds s r1' r2' r3')) :=
  joint_order_independent size threshold L hinv r1 r1' r2 r2' r3 r3' h1 h2 h3

open Proofs.DkgCommute in
/-- tie: a running Joint-Feldman participant handles deliveries and timeouts instance by instance, and `End`
    computes `jres` of its instances -/
theorem tie_joint (j : JSt O) (o : Nat) (m : Bytes) (hr : j.jointRunning = true) :
    ((∀ s ∈ j.fvss, s.running = true ∧ o < s.size) →
      (Joint.handleBroadcast j o m).1.fvss = j.fvss.map (fun s => Proofs.DkgCommute.step s (.bcast o m)) ∧
      (Joint.handlePrivate j o m).1.fvss = j.fvss.map (fun s => Proofs.DkgCommute.step s (.priv o m))) ∧
    ((∀ s ∈ j.fvss, s.running = true ∧ s.complaintsTimeout = false) → (Joint.nextTimeout j).1.fvss = j.fvss.map tstep) ∧
    ((∀ s ∈ j.fvss, s.sharesTimeout = true ∧ s.complaintsTimeout = true) →
      (Joint.end_ j).2.2 = jres j.size j.threshold j.fvss) :=
  ⟨fun h => ⟨joint_bcast j o m hr h, joint_priv j o m hr h⟩, joint_timeout j hr, joint_end j hr⟩

open Proofs.DkgCommute in
/-- `step`, `tstep` and `endRes` are the bodies of `HandleBroadcastMsg` / `HandlePrivateMsg`, `NextTimeout` and
    `End` of the model on a running instance -/
theorem tie_steps (s : St O) (o : Nat) (m : Bytes) (hr : s.running = true) (ho : o < s.size) :
    (FvssQ.handleBroadcast s o m).1 = step s (.bcast o m) ∧ (FvssQ.handlePrivate s o m).1 = step s (.priv o m) ∧
    (s.complaintsTimeout = false → (FvssQ.nextTimeout s).1 = tstep s) ∧
    (s.sharesTimeout = true → s.complaintsTimeout = true → (FvssQ.end_ s).2.2 = endRes s) := by
  refine ⟨by rw [handleBroadcast_ok s o m hr ho], by rw [handlePrivate_ok s o m hr ho],
    fun hct => by rw [nextTimeout_ok s hr hct], fun h1 h2 => ?_⟩
  unfold FvssQ.end_
  rw [hr, h1, h2, Bool.not_true, if_neg Bool.false_ne_true, if_neg (fun h => h.elim Bool.false_ne_true Bool.false_ne_true)]
  rfl

open Proofs.DkgCommute in
/-- **consistent keys, for every behaviour of the dealer and of the others and every schedule**: at a participant
    other than the dealer, if `End` returns keys after any three rounds of deliveries (arbitrary senders, tags,
    payloads, repetitions and order) then they are the group key and key shares of the stored verification
    vector and the returned private share passes the share check against that vector — the share is either the
    dealer's first private message or the answer to the node's own complaint, never an unchecked value -/
theorem keys_match_public_data (size threshold me dealer : Nat) (hne : me ≠ dealer) (r1 r2 r3 : List Dl)
    (x : Nat) (Y : Bytes) (ys : List Bytes)
    (hk : exec ({ size := size, threshold := threshold, me := me, dealer := dealer, running := true } : St O)
      r1 r2 r3 = .keys x Y ys) :
    ∃ v, (final ({ size := size, threshold := threshold, me := me, dealer := dealer, running := true } : St O)
        r1 r2 r3).vA = some v ∧ Y = O.groupKey v ∧ ys = O.pubShares v ∧ O.checkLog v me x = true :=
  exec_keys_consistent _ (sc_fresh size threshold me dealer hne) r1 r2 r3 x Y ys hk

open Proofs.DkgCommute in
/-- share consistency is an invariant of every delivery and every timeout (the induction behind the theorem above) -/
theorem share_consistency_invariant (s : St O) (h : SC s) (e : Dl) : SC (Proofs.DkgCommute.step s e) ∧ SC (tstep s) :=
  ⟨sc_step s h e, sc_tstep s h⟩

open Proofs.DkgCommute Proofs.DkgAgree in
/-- **agreement between different honest participants** (Feldman-VSS-Qual, neither is the dealer): with reliable
    broadcast and round synchrony — in each round every broadcast of a third participant, the dealer included,
    reaches both, in the sender's order, and what each of the two broadcasts in a round is what the other receives
    from it in that round (`Net`) — both leave `End` with the same public result: both fail, or both hold the same
    group public key and the same vector of public key shares. Nothing is assumed about the dealer, the other
    participants, the private messages, or the order in which either of the two is delivered the messages of a
    round; their own broadcasts are the outputs of the state machine on what they received (`bR1`/`bR2`/`bR3`). -/
theorem honest_receivers_agree (size threshold dealer ma mb : Nat) (hd : dealer < size) (hs : size ≤ 256)
    (hma : ma < size) (hmb : mb < size) (hmad : ma ≠ dealer) (hmbd : mb ≠ dealer) (hab : ma ≠ mb)
    (ra1 ra2 ra3 rb1 rb2 rb3 : List Dl)
    (ba1 : ∀ e ∈ ra1, e.sender < size) (ba2 : ∀ e ∈ ra2, e.sender < size) (ba3 : ∀ e ∈ ra3, e.sender < size)
    (bb1 : ∀ e ∈ rb1, e.sender < size) (bb2 : ∀ e ∈ rb2, e.sender < size) (bb3 : ∀ e ∈ rb3, e.sender < size)
    (n1 : Net ma mb ra1 rb1 (bR1 (fresh O size threshold ma dealer) ra1) (bR1 (fresh O size threshold mb dealer) rb1))
    (n2 : Net ma mb ra2 rb2 (bR2 (fresh O size threshold ma dealer) ra1 ra2) (bR2 (fresh O size threshold mb dealer) rb1 rb2))
    (n3 : Net ma mb ra3 rb3 (bR3 (fresh O size threshold ma dealer) ra1 ra2 ra3)
      (bR3 (fresh O size threshold mb dealer) rb1 rb2 rb3)) :
    pubRes (final (fresh O size threshold ma dealer) ra1 ra2 ra3) =
      pubRes (final (fresh O size threshold mb dealer) rb1 rb2 rb3) :=
  agreement size threshold dealer ma mb hd hs hma hmb hmad hmbd hab ra1 ra2 ra3 rb1 rb2 rb3 ba1 ba2 ba3 bb1 bb2 bb3 n1 n2 n3

open Proofs.DkgCommute Proofs.DkgAgree in
/-- **agreement on what `End` returns**: under the same hypotheses, and with scalars read from the wire never zero
    (`ReadsNonzero`, true of the BLS12-381 instance: `reads_nonzero_bls`), either both honest participants get a
    DKG failure, or both get keys with the same group public key and the same vector of public key shares, each with
    a non-zero private share (which `keys_match_public_data` shows to match its public share) -/
theorem honest_receivers_same_end (hr : ReadsNonzero O) (size threshold dealer ma mb : Nat) (hd : dealer < size)
    (hs : size ≤ 256) (hma : ma < size) (hmb : mb < size) (hmad : ma ≠ dealer) (hmbd : mb ≠ dealer) (hab : ma ≠ mb)
    (ra1 ra2 ra3 rb1 rb2 rb3 : List Dl)
    (ba1 : ∀ e ∈ ra1, e.sender < size) (ba2 : ∀ e ∈ ra2, e.sender < size) (ba3 : ∀ e ∈ ra3, e.sender < size)
    (bb1 : ∀ e ∈ rb1, e.sender < size) (bb2 : ∀ e ∈ rb2, e.sender < size) (bb3 : ∀ e ∈ rb3, e.sender < size)
    (n1 : Net ma mb ra1 rb1 (bR1 (fresh O size threshold ma dealer) ra1) (bR1 (fresh O size threshold mb dealer) rb1))
    (n2 : Net ma mb ra2 rb2 (bR2 (fresh O size threshold ma dealer) ra1 ra2) (bR2 (fresh O size threshold mb dealer) rb1 rb2))
    (n3 : Net ma mb ra3 rb3 (bR3 (fresh O size threshold ma dealer) ra1 ra2 ra3)
      (bR3 (fresh O size threshold mb dealer) rb1 rb2 rb3)) :
    (exec (fresh O size threshold ma dealer) ra1 ra2 ra3 = .failure ∧
      exec (fresh O size threshold mb dealer) rb1 rb2 rb3 = .failure) ∨
    (∃ Y ys xa xb, xa ≠ 0 ∧ xb ≠ 0 ∧ exec (fresh O size threshold ma dealer) ra1 ra2 ra3 = .keys xa Y ys ∧
      exec (fresh O size threshold mb dealer) rb1 rb2 rb3 = .keys xb Y ys) :=
  agreement_end hr size threshold dealer ma mb hd hs hma hmb hmad hmbd hab ra1 ra2 ra3 rb1 rb2 rb3
    ba1 ba2 ba3 bb1 bb2 bb3 n1 n2 n3

open Proofs.DkgCommute Proofs.DkgAgree in
/-- **Joint-Feldman, instance by instance**: in Joint-Feldman every broadcast is handed to all `n` instances; for
    the instance of dealer `d` a broadcast of another participant `A ≠ d` is ignored unless it is `A`'s complaint
    against `d` (`irrelevant_noop`: its own vector, its answers, its complaints against other dealers change
    nothing). With the network hypothesis stated on the *full* broadcast streams (`NetD`: among what one honest
    participant receives from the other in a round, the complaints against `d` are exactly what the other's instance
    of `d` broadcast), two honest participants end every instance whose dealer is neither of them — honest or not —
    with the same public result: the same verdict on the dealer and the same contribution to the group key -/
theorem joint_instances_agree (size threshold dealer ma mb : Nat) (hd : dealer < size) (hs : size ≤ 256)
    (hma : ma < size) (hmb : mb < size) (hmad : ma ≠ dealer) (hmbd : mb ≠ dealer) (hab : ma ≠ mb)
    (ra1 ra2 ra3 rb1 rb2 rb3 : List Dl)
    (ba1 : ∀ e ∈ ra1, e.sender < size) (ba2 : ∀ e ∈ ra2, e.sender < size) (ba3 : ∀ e ∈ ra3, e.sender < size)
    (bb1 : ∀ e ∈ rb1, e.sender < size) (bb2 : ∀ e ∈ rb2, e.sender < size) (bb3 : ∀ e ∈ rb3, e.sender < size)
    (n1 : NetD dealer ma mb ra1 rb1 (bR1 (fresh O size threshold ma dealer) ra1) (bR1 (fresh O size threshold mb dealer) rb1))
    (n2 : NetD dealer ma mb ra2 rb2 (bR2 (fresh O size threshold ma dealer) ra1 ra2)
      (bR2 (fresh O size threshold mb dealer) rb1 rb2))
    (n3 : NetD dealer ma mb ra3 rb3 (bR3 (fresh O size threshold ma dealer) ra1 ra2 ra3)
      (bR3 (fresh O size threshold mb dealer) rb1 rb2 rb3)) :
    pubRes (final (fresh O size threshold ma dealer) ra1 ra2 ra3) =
      pubRes (final (fresh O size threshold mb dealer) rb1 rb2 rb3) :=
  agreement_instance size threshold dealer ma mb hd hs hma hmb hmad hmbd hab ra1 ra2 ra3 rb1 rb2 rb3
    ba1 ba2 ba3 bb1 bb2 bb3 n1 n2 n3

open Proofs.DkgCommute Proofs.DkgAgree in
/-- the same for what Joint `End` actually uses of an instance: the verdict after `End`'s settling of unanswered
    complaints and, if the dealer stays qualified, its verification vector -/
theorem joint_instance_views_agree (size threshold dealer ma mb : Nat) (hd : dealer < size) (hs : size ≤ 256)
    (hma : ma < size) (hmb : mb < size) (hmad : ma ≠ dealer) (hmbd : mb ≠ dealer) (hab : ma ≠ mb)
    (ra1 ra2 ra3 rb1 rb2 rb3 : List Dl)
    (ba1 : ∀ e ∈ ra1, e.sender < size) (ba2 : ∀ e ∈ ra2, e.sender < size) (ba3 : ∀ e ∈ ra3, e.sender < size)
    (bb1 : ∀ e ∈ rb1, e.sender < size) (bb2 : ∀ e ∈ rb2, e.sender < size) (bb3 : ∀ e ∈ rb3, e.sender < size)
    (n1 : NetD dealer ma mb ra1 rb1 (bR1 (fresh O size threshold ma dealer) ra1) (bR1 (fresh O size threshold mb dealer) rb1))
    (n2 : NetD dealer ma mb ra2 rb2 (bR2 (fresh O size threshold ma dealer) ra1 ra2)
      (bR2 (fresh O size threshold mb dealer) rb1 rb2))
    (n3 : NetD dealer ma mb ra3 rb3 (bR3 (fresh O size threshold ma dealer) ra1 ra2 ra3)
      (bR3 (fresh O size threshold mb dealer) rb1 rb2 rb3)) :
    pview (final (fresh O size threshold ma dealer) ra1 ra2 ra3) =
      pview (final (fresh O size threshold mb dealer) rb1 rb2 rb3) :=
  pview_agree_instance size threshold dealer ma mb hd hs hma hmb hmad hmbd hab ra1 ra2 ra3 rb1 rb2 rb3
    ba1 ba2 ba3 bb1 bb2 bb3 n1 n2 n3

open Proofs.DkgCommute Proofs.DkgAgree in
/-- **the instance of an honest dealer, seen by the dealer itself and by an honest receiver**: the dealer's own
    instance (`DS`: it holds its vector `v`, answers every complaint at once; only the at most `t` participants of `K`
    ever complain) and a receiver's instance under the hypotheses of `honest_dealer_never_disqualified` (C08: the
    vector and the share arrive in the first round, answers are valid, complainers are in `K`) end with the same
    public view: the dealer is qualified at both, with the same vector (`hv`: the vector the receiver parsed from the
    dealer's broadcast is the dealer's) -/
theorem honest_dealer_instance_views_agree (H : Honest O) (K : Finset Nat) (v : O.Vec) (hv : H.v0 = v)
    (sD sR : St O) (hD : DS K v sD) (hKD : K.card ≤ sD.threshold) (hR : HD H sR)
    (hst0 : sR.sharesTimeout = false) (hct0 : sR.complaintsTimeout = false) (hKR : K.card ≤ sR.threshold)
    (hk0 : keysIn K sR) (rd1 rd2 rd3 rr1 rr2 rr3 : List Dl)
    (k1 : ∀ o m, Dl.bcast o m ∈ rd1 → m.headD 0 = tagComplaint → o ∈ K)
    (k2 : ∀ o m, Dl.bcast o m ∈ rd2 → m.headD 0 = tagComplaint → o ∈ K)
    (k3 : ∀ o m, Dl.bcast o m ∈ rd3 → m.headD 0 = tagComplaint → o ∈ K)
    (ok1 : RoundOK' H K sR false rr1) (ok2 : RoundOK' H K sR false rr2) (ok3 : RoundOK' H K sR true rr3)
    (hvec : ∃ e ∈ rr1, ∃ d, ∀ t, CfgCT sR false t → classify t e = .vec d)
    (hshare : ∃ e ∈ rr1, ∃ d, ∀ t, CfgCT sR false t → classify t e = .share d)
    (hans : ∀ k ∈ K, ∃ a, (∃ e ∈ rr1, ∀ t, CfgCT sR false t → classify t e = .ans k (some a)) ∨
      (∃ e ∈ rr2, ∀ t, CfgCT sR false t → classify t e = .ans k (some a)) ∨
      (∃ e ∈ rr3, ∀ t, CfgCT sR true t → classify t e = .ans k (some a))) :
    pview (final sD rd1 rd2 rd3) = pview (final sR rr1 rr2 rr3) := by
  rw [dealer_side_view K v sD hD hKD rd1 rd2 rd3 k1 k2 k3,
    honest_dealer_view H K sR hR hst0 hct0 hKR hk0 rr1 rr2 rr3 ok1 ok2 ok3 hvec hshare hans, hv]

open Proofs.DkgCommute Proofs.DkgAgree in
/-- non-vacuity of the dealer-side hypothesis `DS`: it holds right after a successful `Start` of the dealer -/
theorem dealer_instance_after_start (K : Finset Nat) (size threshold me : Nat) (seed : Bytes) (s' : St O) (outs : List Out)
    (h : Dkg.start ({ size := size, threshold := threshold, me := me, dealer := me } : St O) seed = (s', outs, .ok)) :
    ∃ a, DS K (O.vecOfPoly size a) s' := ds_after_start K size threshold me seed s' outs h

open Proofs.DkgCommute Proofs.DkgAgree in
/-- **from the instances to Joint-Feldman's `End`** (partial: the per-instance hypotheses are composed into one
    statement about a Joint-Feldman execution by `joint_feldman_agreement`): two participants whose `n` instances have
    pairwise the same public view — which `joint_instance_views_agree` proves for every dealer other than the two
    participants themselves, and `honest_dealer_instance_views_agree` for the two instances they deal themselves —
    get from `End` the same public result: both fail (too many disqualified dealers, or an identity group key), or
    both hold the same group public key and the same vector of public key shares, each with its own combined private
    share (`End` fails privately at a participant only if that combined share is zero) -/
theorem joint_end_agrees_given_instances_partial (jA jB : JSt O) (hrA : jA.jointRunning = true)
    (hrB : jB.jointRunning = true) (hs : jA.size = jB.size) (ht : jA.threshold = jB.threshold)
    (htA : ∀ s ∈ jA.fvss, s.sharesTimeout = true ∧ s.complaintsTimeout = true)
    (htB : ∀ s ∈ jB.fvss, s.sharesTimeout = true ∧ s.complaintsTimeout = true)
    (hv : jA.fvss.map pview = jB.fvss.map pview) :
    ∃ pub : Option (Bytes × List Bytes), ∃ xA xB : Nat,
      (Joint.end_ jA).2.2 = (match pub with | none => .failure | some Yys => if xA = 0 then .failure else .keys xA Yys.1 Yys.2) ∧
      (Joint.end_ jB).2.2 = (match pub with | none => .failure | some Yys => if xB = 0 then .failure else .keys xB Yys.1 Yys.2) := by
  refine ⟨jpub jA.size jA.threshold jA.fvss, jshare jA.fvss, jshare jB.fvss, ?_, ?_⟩
  · rw [(tie_joint jA 0 [] hrA).2.2 htA, jres_jpub]
    cases jpub jA.size jA.threshold jA.fvss <;> rfl
  · rw [(tie_joint jB 0 [] hrB).2.2 htB, jres_jpub, ← hs, ← ht, ← jpub_of_pviews jA.size jA.threshold jA.fvss jB.fvss hv]
    cases jpub jA.size jA.threshold jA.fvss <;> rfl

open Proofs.DkgCommute Proofs.DkgAgree in
/-- tie between executions of the model's Joint-Feldman API and the per-instance executions the instance theorems
    speak about: a started participant that receives three rounds of deliveries through `Joint.handleBroadcast` /
    `Joint.handlePrivate` with `Joint.nextTimeout` in between (`jfinal`) holds exactly the `final` states of the
    instances it held after `Start`, all past both timeouts -/
theorem joint_execution_is_instancewise {n : Nat} (j : JSt O) (h : JI n false false j) (r1 r2 r3 : List Dl)
    (h1 : ∀ e ∈ r1, e.sender < n) (h2 : ∀ e ∈ r2, e.sender < n) (h3 : ∀ e ∈ r3, e.sender < n) :
    (jfinal j r1 r2 r3).fvss = j.fvss.map (fun s => final s r1 r2 r3) ∧ (jfinal j r1 r2 r3).size = j.size ∧
    (jfinal j r1 r2 r3).threshold = j.threshold ∧ JI n true true (jfinal j r1 r2 r3) :=
  jfinal_fvss j h r1 r2 r3 h1 h2 h3

open Proofs.DkgCommute Proofs.DkgAgree in
/-- the instances a participant holds right after a successful `Joint.start`: the fresh receiver instance for every
    other dealer, and for itself the dealer instance holding the vector of the polynomial it drew (`DS`) -/
theorem joint_instances_after_start (K : Finset Nat) (size threshold me : Nat) (seed : Bytes) (j : JSt O)
    (outs : List Out) (hme : me < size) (h : Joint.start (Joint.init O size threshold me) seed = (j, outs, .ok)) :
    ∃ sD : St O, (∃ a, DS K (O.vecOfPoly size a) sD) ∧ sD.size = size ∧ sD.threshold = threshold ∧ sD.running = true ∧
      sD.sharesTimeout = false ∧ sD.complaintsTimeout = false ∧ sD.dealer = me ∧
      j.fvss = (List.range size).map (fun i => if i = me then sD else fresh O size threshold me i) ∧
      j.size = size ∧ j.threshold = threshold ∧ j.jointRunning = true :=
  joint_start_fvss K size threshold me seed j outs hme h

open Proofs.DkgCommute Proofs.DkgAgree in
/-- **Joint-Feldman: two honest participants end with the same public result** — the closed composition of the
    instance theorems, stated on executions of the model's API (`Joint.start`, then `jfinal` = three rounds through
    `HandleBroadcastMsg`/`HandlePrivateMsg` with `NextTimeout` in between, then `Joint.end_`). Hypotheses: reliable
    broadcast with synchronous rounds for the instances of every third-party dealer (`NetD`; those dealers and all
    other participants are arbitrary, Byzantine included), and honest-dealer delivery (`OwnNet`) for the two
    instances `A` and `B` deal themselves. Conclusion: both fail, or both return the same group public key and the
    same public key shares, each with its own private share. -/
theorem joint_feldman_agreement (size threshold A B : Nat) (hs : size ≤ 256) (hA : A < size) (hB : B < size)
    (hab : A ≠ B) (seedA seedB : Bytes) (jA jB : JSt O) (outsA outsB : List Out)
    (stA : Joint.start (Joint.init O size threshold A) seedA = (jA, outsA, .ok))
    (stB : Joint.start (Joint.init O size threshold B) seedB = (jB, outsB, .ok))
    (rA1 rA2 rA3 rB1 rB2 rB3 : List Dl)
    (ba1 : ∀ e ∈ rA1, e.sender < size) (ba2 : ∀ e ∈ rA2, e.sender < size) (ba3 : ∀ e ∈ rA3, e.sender < size)
    (bb1 : ∀ e ∈ rB1, e.sender < size) (bb2 : ∀ e ∈ rB2, e.sender < size) (bb3 : ∀ e ∈ rB3, e.sender < size)
    (third : ∀ d, d < size → d ≠ A → d ≠ B →
      NetD d A B rA1 rB1 (bR1 (fresh O size threshold A d) rA1) (bR1 (fresh O size threshold B d) rB1) ∧
      NetD d A B rA2 rB2 (bR2 (fresh O size threshold A d) rA1 rA2) (bR2 (fresh O size threshold B d) rB1 rB2) ∧
      NetD d A B rA3 rB3 (bR3 (fresh O size threshold A d) rA1 rA2 rA3) (bR3 (fresh O size threshold B d) rB1 rB2 rB3))
    (KA KB : Finset Nat)
    (ownA : ∀ sD ∈ jA.fvss, sD.dealer = A → ∀ v, sD.vA = some v →
      OwnNet KA v (fresh O size threshold B A) rA1 rA2 rA3 rB1 rB2 rB3)
    (ownB : ∀ sD ∈ jB.fvss, sD.dealer = B → ∀ v, sD.vA = some v →
      OwnNet KB v (fresh O size threshold A B) rB1 rB2 rB3 rA1 rA2 rA3) :
    ∃ pub : Option (Bytes × List Bytes), ∃ xA xB : Nat,
      (Joint.end_ (jfinal jA rA1 rA2 rA3)).2.2 =
        (match pub with | none => .failure | some Yys => if xA = 0 then .failure else .keys xA Yys.1 Yys.2) ∧
      (Joint.end_ (jfinal jB rB1 rB2 rB3)).2.2 =
        (match pub with | none => .failure | some Yys => if xB = 0 then .failure else .keys xB Yys.1 Yys.2) :=
  Proofs.DkgAgree.joint_feldman_agreement size threshold A B hs hA hB hab seedA seedB jA jB outsA outsB stA stB
    rA1 rA2 rA3 rB1 rB2 rB3 ba1 ba2 ba3 bb1 bb2 bb3 third KA KB ownA ownB

open Proofs.DkgCommute Proofs.DkgAgree in
/-- **what an honest dealer emits at `Start`** (the emission side of `OwnNet`): the broadcast of the verification vector
    of the polynomial it drew and, to every other participant `i`, the private message carrying `a(i+1)` -/
theorem dealer_start_outputs (size threshold me : Nat) (seed : Bytes) (s' : St O) (outs : List Out)
    (h : Dkg.start ({ size := size, threshold := threshold, me := me, dealer := me } : St O) seed = (s', outs, .ok)) :
    ∃ a, O.genPoly seed threshold = some a ∧ s'.a = a ∧ s'.vA = some (O.vecOfPoly size a) ∧
      Out.bcast (tagVerifVec :: O.vecBytes a) ∈ outs ∧
      ∀ i, i < size → i ≠ me → Out.send i (tagShare :: O.writeScalar (O.polyEval a (i + 1))) ∈ outs :=
  start_outputs size threshold me seed s' outs h

open Proofs.DkgCommute Proofs.DkgAgree in
/-- **and a receiver accepts it**: under the laws tying the writers of the crypto record to its readers (`OpsLaws`:
    the serialized vector parses back, a written share reads back, the Feldman check accepts `a(i+1)` against the
    vector of `a`), the two messages of `dealer_start_outputs` are classified by `rcv`'s instance, in every state, as
    the dealer's vector and `rcv`'s share, and are deliveries an honest dealer can cause - the round-one hypotheses
    of `OwnNet` (`hvec`, `hshare` and the `RoundOK'` entries of the dealer's messages) hold for the dealer's own
    emission -/
theorem receiver_accepts_dealer_emission (size threshold dealer rcv : Nat) (hne : rcv ≠ dealer) (hr : rcv < size)
    (a : List Nat) (L : OpsLaws O size threshold a) (hx : O.polyEval a (rcv + 1) ≠ 0) (ct : Bool) (t : St O)
    (ht : CfgCT (fresh O size threshold rcv dealer) ct t) :
    classify t (.bcast dealer (tagVerifVec :: O.vecBytes a)) = .vec (O.vecBytes a) ∧
    AllowedK (honestOf size threshold a L rcv hr) t (.vec (O.vecBytes a)) ∧
    classify t (.priv dealer (tagShare :: O.writeScalar (O.polyEval a (rcv + 1)))) =
      .share (tagShare :: O.writeScalar (O.polyEval a (rcv + 1))) ∧
    AllowedK (honestOf size threshold a L rcv hr) t (.share (tagShare :: O.writeScalar (O.polyEval a (rcv + 1)))) :=
  emission_allowed size threshold dealer rcv hne hr a L hx ct t ht

open Proofs.DkgCommute Proofs.DkgAgree in
/-- **the dealer answers a first complaint at once** with the complainer's share of the polynomial it drew (the
    emission behind the answer part `hans` of `OwnNet`) -/
theorem dealer_answers_complaint (s : St O) (hmd : s.me = s.dealer) (hndq : s.disqualified = false)
    (hct : s.complaintsTimeout = false) (hd : s.dealer < 256) (hds : s.dealer < s.size) (o : Nat) (hod : o ≠ s.dealer)
    (hf : s.find o = none) :
    stepOuts s (.bcast o (cmplMsg s.dealer)) =
      [Out.bcast (tagAnswer :: UInt8.ofNat o :: O.writeScalar (O.polyEval s.a (o + 1)))] :=
  dealer_answers s hmd hndq hct hd hds o hod hf

open Proofs.DkgCommute Proofs.DkgAgree in
/-- **and a receiver accepts that answer** as a valid answer for `o` (under `OpsLaws`, non-zero share) -/
theorem receiver_accepts_dealer_answer (size threshold dealer rcv o : Nat) (hne : rcv ≠ dealer) (hr : rcv < size)
    (ho : o < size) (ho256 : o < 256) (a : List Nat) (L : OpsLaws O size threshold a)
    (hx : O.polyEval a (o + 1) ≠ 0) (ct : Bool) (t : St O) (ht : CfgCT (fresh O size threshold rcv dealer) ct t) :
    classify t (.bcast dealer (tagAnswer :: UInt8.ofNat o :: O.writeScalar (O.polyEval a (o + 1)))) =
      .ans o (some (O.polyEval a (o + 1))) ∧
    AllowedK (honestOf size threshold a L rcv hr) t (.ans o (some (O.polyEval a (o + 1)))) :=
  answer_allowed size threshold dealer rcv o hne hr ho ho256 a L hx ct t ht

open Proofs.DkgCommute Proofs.DkgAgree in
/-- the broadcasts of `A` an instance of another dealer ignores: everything but `A`'s complaint against that dealer -/
theorem joint_irrelevant_broadcasts_ignored (s : St O) (hme : s.me ≠ s.dealer) (A : Nat) (hAd : A ≠ s.dealer)
    (hd : s.dealer < 256) (e : Dl) (h : irrelevant A s.dealer e = true) :
    Proofs.DkgCommute.step s e = s ∧ bcasts (stepOuts s e) = [] := irrelevant_noop s hme A hAd hd e h

open Proofs.DkgAgree in
/-- the BLS12-381 instance the driver runs against the implementation never reads a zero scalar from the wire -/
theorem reads_nonzero_bls : ReadsNonzero Driver.Dkg.blsOps := by
  intro b n h
  have h' : (match Bls.readFrStar b with | .ok x => some x | .error _ => none) = some n := h
  unfold Bls.readFrStar at h'
  cases hrd : Bls.readFr b with
  | error e => rw [hrd] at h'; cases h'
  | ok x =>
    rw [hrd] at h'
    simp only [] at h'
    by_cases hx : x = 0
    · rw [if_pos hx] at h'; cases h'
    · rw [if_neg hx] at h'; cases h'; exact hx

open Proofs.DkgCommute Proofs.DkgAgree in
/-- the public result is what `End` returns: a failure, or the public result together with the private share -/
theorem end_result_is_public_result (s : St O) : endRes s =
    match pubRes s with
    | none => .failure
    | some Yys => if s.x = 0 then .failure else .keys s.x Yys.1 Yys.2 := endRes_pubRes s

open Proofs.DkgCommute Proofs.DkgAgree in
/-- tie between the theorem's `bR` (what a participant broadcasts) and the handlers: the only broadcast an honest
    participant other than the dealer ever makes is its complaint, made exactly when its own table entry gets
    the `received` flag; this is what the other participant's stream from it consists of -/
theorem broadcasts_are_the_complaint (a : St O) (hme : a.me ≠ a.dealer) (e : Dl) :
    bcasts (stepOuts a e) = if ownRecv a then [] else if ownRecv (Proofs.DkgCommute.step a e) then [cmplMsg a.dealer] else [] :=
  step_good a hme e

open Proofs.DkgCommute Proofs.DkgAgree in
/-- the simulation behind the agreement theorem: after any delivery, the public part of a participant's state is
    that of the shadow observer that was given the same broadcast and the participant's complaint, if emitted -/
theorem shadow_simulation {zme : Nat} {a : St O} {z : St (shadowOps O zme)} (ai : AInv a) (zi : ZInv z) (h : PubEq a z)
    (e : Dl) (he : e.sender < a.size) : PubEq (Proofs.DkgCommute.step a e) (runList z (zEvents a e)) :=
  (shadow_step ai zi h e he).1

section NonVacuity
open Proofs.DkgCommute

/-- toy crypto record: a share of participant `k` is valid iff it equals `k + 5` -/
def toy : Ops where
  Vec := Unit
  readVec := fun _ _ _ => some ()
  checkLog := fun _ k x => x == k + 5
  readScalar := fun b => some (b.headD 0).toNat
  writeScalar := fun _ => []
  addScalar := fun a b => a + b
  groupKey := fun _ => []
  pubShares := fun _ => []
  groupKeyIsIdentity := fun _ => false
  sumVecs := fun _ => none
  genPoly := fun _ _ => none
  polyEval := fun _ _ => 0
  vecBytes := fun _ => []
  vecOfPoly := fun _ _ => ()

def toyVec : Bytes := List.replicate (96 * 2) 0
def toyBadShare : Bytes := tagShare :: 9 :: List.replicate 31 0
def toyAnswer : Bytes := tagAnswer :: 1 :: 6 :: List.replicate 31 0
def toyStart : St toy := { size := 3, threshold := 1, me := 1, dealer := 0, running := true }

/-- non-vacuity of `keys_match_public_data`: the dealer sends a wrong share (9), the node complains, the dealer
    answers with the right one (6 = 1 + 5); `End` returns keys with the adopted share -/
example : exec toyStart [.bcast 0 (tagVerifVec :: toyVec), .priv 0 toyBadShare] [.bcast 0 toyAnswer] [] =
    .keys 6 [] [] := by decide +kernel

/-- and a wrong answer (7) makes `End` fail instead of returning an unchecked share -/
example : exec toyStart [.bcast 0 (tagVerifVec :: toyVec), .priv 0 toyBadShare]
    [.bcast 0 (tagAnswer :: 1 :: 7 :: List.replicate 31 0)] [] = .failure := by decide +kernel

open Proofs.DkgAgree in
/-- non-vacuity of `honest_receivers_agree`: dealer 0 sends participant 1 a wrong share and participant 2 a right
    one; 1 complains in round 1 (2 receives the complaint before the vector), the dealer answers in round 2; the
    three `Net` hypotheses hold and both end with the same public keys -/
def toyGoodShare2 : Bytes := tagShare :: 7 :: List.replicate 31 0
def nvA1 : List Dl := [.bcast 0 (tagVerifVec :: toyVec), .priv 0 toyBadShare]
def nvB1 : List Dl := [.priv 0 toyGoodShare2, .bcast 1 (Proofs.DkgAgree.cmplMsg 0), .bcast 0 (tagVerifVec :: toyVec)]
def nvR2 : List Dl := [.bcast 0 toyAnswer]

open Proofs.DkgAgree in
theorem nv_stream (l1 l2 : List Dl) (h0 : stream l1 (0, false) = stream l2 (0, false))
    (hn : ∀ n, stream l1 (n + 3, false) = stream l2 (n + 3, false)) :
    ∀ o, o ≠ 1 → o ≠ 2 → stream l1 (o, false) = stream l2 (o, false) := by
  intro o h1 h2
  match o, h1, h2 with
  | 0, _, _ => exact h0
  | 1, h, _ => exact absurd rfl h
  | 2, _, h => exact absurd rfl h
  | n + 3, _, _ => exact hn n

open Proofs.DkgAgree in
example : pubRes (final (fresh toy 3 1 1 0) nvA1 nvR2 []) = some ([], []) ∧
    pubRes (final (fresh toy 3 1 2 0) nvB1 nvR2 []) = some ([], []) ∧
    Net 1 2 nvA1 nvB1 (bR1 (fresh toy 3 1 1 0) nvA1) (bR1 (fresh toy 3 1 2 0) nvB1) ∧
    Net 1 2 nvR2 nvR2 (bR2 (fresh toy 3 1 1 0) nvA1 nvR2) (bR2 (fresh toy 3 1 2 0) nvB1 nvR2) ∧
    Net 1 2 [] [] (bR3 (fresh toy 3 1 1 0) nvA1 nvR2 []) (bR3 (fresh toy 3 1 2 0) nvB1 nvR2 []) := by
  have e1 : bR1 (fresh toy 3 1 1 0) nvA1 = [cmplMsg 0] := by decide +kernel
  have e2 : bR1 (fresh toy 3 1 2 0) nvB1 = [] := by decide +kernel
  have e3 : bR2 (fresh toy 3 1 1 0) nvA1 nvR2 = [] := by decide +kernel
  have e4 : bR2 (fresh toy 3 1 2 0) nvB1 nvR2 = [] := by decide +kernel
  have e5 : bR3 (fresh toy 3 1 1 0) nvA1 nvR2 [] = [] := by decide +kernel
  have e6 : bR3 (fresh toy 3 1 2 0) nvB1 nvR2 [] = [] := by decide +kernel
  rw [e1, e2, e3, e4, e5, e6]
  refine ⟨by decide +kernel, by decide +kernel, ⟨nv_stream _ _ rfl (fun _ => rfl), rfl, rfl⟩,
    ⟨nv_stream _ _ rfl (fun _ => rfl), rfl, rfl⟩, ⟨nv_stream _ _ rfl (fun _ => rfl), rfl, rfl⟩⟩

/-! #### non-vacuity of `joint_feldman_agreement`: two participants, each deals to the other, nobody complains -/

/-- toy crypto record in which `Start` succeeds: every share is 1 and valid -/
def toyJ : Ops where
  Vec := Unit
  readVec := fun _ _ _ => some ()
  checkLog := fun _ _ _ => true
  readScalar := fun _ => some 1
  writeScalar := fun _ => List.replicate 32 0
  addScalar := fun a b => a + b
  groupKey := fun _ => []
  pubShares := fun _ => []
  groupKeyIsIdentity := fun _ => false
  sumVecs := fun _ => some ()
  genPoly := fun _ _ => some [1]
  polyEval := fun _ _ => 1
  vecBytes := fun _ => List.replicate (96 * 2) 0
  vecOfPoly := fun _ _ => ()

def jShare : Bytes := tagShare :: List.replicate 32 0
/-- what a participant of the toy run receives in the first round from the other one `o`: vector and share -/
def jRound (o : Nat) : List Dl := [.bcast o (tagVerifVec :: toyVec), .priv o jShare]

open Proofs.DkgAgree in
theorem nv_own (rcv dealer : Nat) (hne : rcv ≠ dealer) (v : Unit) :
    OwnNet (O := toyJ) ∅ v (fresh toyJ 2 1 rcv dealer) (jRound rcv) [] [] (jRound dealer) [] [] := by
  have hcl1 : ∀ t : St toyJ, CfgCT (fresh toyJ 2 1 rcv dealer) false t →
      classify t (.bcast dealer (tagVerifVec :: toyVec)) = .vec toyVec := by
    intro t ⟨h1, h2, _, _, _⟩
    exact Proofs.DkgCommute.classify_vec t dealer h2.symm (by rw [h1]; exact hne) toyVec
  have hcl2 : ∀ t : St toyJ, CfgCT (fresh toyJ 2 1 rcv dealer) false t →
      classify t (.priv dealer jShare) = .share jShare := by
    intro t ⟨h1, h2, _, _, _⟩
    exact Proofs.DkgCommute.classify_share t dealer h2.symm (by rw [h1]; exact hne) jShare
  refine ⟨{ v0 := (), vb := toyVec, x0 := 1, sb := jShare, me := rcv, shareOk := rfl }, rfl, rfl, by simp [Proofs.DkgAgree.fresh], ?_, ?_, ?_,
    ?_, ?_, ?_, ⟨_, by simp [jRound], toyVec, hcl1⟩, ⟨_, List.mem_cons_of_mem _ (by simp), jShare, hcl2⟩,
    fun k hk => by simp at hk⟩
  · intro o m hm ht
    simp only [jRound, List.mem_cons, List.not_mem_nil, or_false] at hm
    rcases hm with hm | hm
    · cases hm
      exact absurd ht (by decide)
    · cases hm
  · intro o m hm; cases hm
  · intro o m hm; cases hm
  · intro e he t ht
    simp only [jRound, List.mem_cons, List.not_mem_nil, or_false] at he
    rcases he with rfl | rfl
    · rw [hcl1 t ht]
      refine ⟨⟨rfl, ?_⟩, trivial, trivial⟩
      unfold parseVec
      have hth : t.threshold = 1 := ht.threshold
      have hlen : toyVec.length = verifVectorSize * (t.threshold + 1) := by
        rw [hth]; unfold toyVec verifVectorSize; rw [List.length_replicate]
      rw [if_neg (fun hne' => hne' hlen)]
      rfl
    · rw [hcl2 t ht]
      refine ⟨⟨rfl, ?_⟩, trivial, trivial⟩
      rfl
  · intro e he; cases he
  · intro e he; cases he

def jA0 : JSt toyJ := (Joint.start (Joint.init toyJ 2 1 0) []).1
def jB0 : JSt toyJ := (Joint.start (Joint.init toyJ 2 1 1) []).1

open Proofs.DkgAgree in
/-- the hypotheses of `joint_feldman_agreement` are met by a run of the model's API in which both `Start` calls
    succeed, and the common result is a pair of keys (not the failure) -/
example :
    (∃ pub : Option (Bytes × List Bytes), ∃ xA xB : Nat,
      (Joint.end_ (jfinal jA0 (jRound 1) [] [])).2.2 =
        (match pub with | none => .failure | some Yys => if xA = 0 then .failure else .keys xA Yys.1 Yys.2) ∧
      (Joint.end_ (jfinal jB0 (jRound 0) [] [])).2.2 =
        (match pub with | none => .failure | some Yys => if xB = 0 then .failure else .keys xB Yys.1 Yys.2)) ∧
    (Joint.end_ (jfinal jA0 (jRound 1) [] [])).2.2 = .keys 2 [] [] ∧
    (Joint.end_ (jfinal jB0 (jRound 0) [] [])).2.2 = .keys 2 [] [] := by
  refine ⟨?_, by decide +kernel, by decide +kernel⟩
  refine joint_feldman_agreement (O := toyJ) 2 1 0 1 (by decide) (by decide) (by decide) (by decide) [] [] jA0 jB0
    (Joint.start (Joint.init toyJ 2 1 0) []).2.1 (Joint.start (Joint.init toyJ 2 1 1) []).2.1 ?_ ?_
    (jRound 1) [] [] (jRound 0) [] [] ?_ ?_ ?_ ?_ ?_ ?_ ?_ ∅ ∅ ?_ ?_
  · have : (Joint.start (Joint.init toyJ 2 1 0) []).2.2 = .ok := by decide +kernel
    rw [← this]; rfl
  · have : (Joint.start (Joint.init toyJ 2 1 1) []).2.2 = .ok := by decide +kernel
    rw [← this]; rfl
  · intro e he
    simp only [jRound, List.mem_cons, List.not_mem_nil, or_false] at he
    rcases he with rfl | rfl <;> decide
  · intro e he; cases he
  · intro e he; cases he
  · intro e he
    simp only [jRound, List.mem_cons, List.not_mem_nil, or_false] at he
    rcases he with rfl | rfl <;> decide
  · intro e he; cases he
  · intro e he; cases he
  · intro d hd h0 h1; omega
  · intro sD _ _ v _; exact nv_own 1 0 (by decide) v
  · intro sD _ _ v _; exact nv_own 0 1 (by decide) v

open Proofs.DkgAgree in
/-- the laws are satisfiable: the toy record in which `Start` succeeds meets them for its polynomial -/
example : OpsLaws toyJ 2 1 [1] := by
  refine ⟨?_, rfl, fun _ => ?_, fun _ _ => rfl, fun _ _ => rfl⟩
  · show (List.replicate (96 * 2) (0 : UInt8)).length = verifVectorSize * (1 + 1)
    rw [List.length_replicate]; rfl
  · show (List.replicate 32 (0 : UInt8)).length = shareSize
    rw [List.length_replicate]; rfl

end NonVacuity

end Props.C07

#print axioms Props.C07.fvssq_keys_shape
#print axioms Props.C07.end_verdict_function
#print axioms Props.C07.joint_end_shape
#print axioms Props.C07.inv_after_start
#print axioms Props.C07.start_state
#print axioms Props.C07.delivery_pair_commutes
#print axioms Props.C07.round_order_independent
#print axioms Props.C07.end_result_order_independent
#print axioms Props.C07.tie_steps
#print axioms Props.C07.joint_end_order_independent
#print axioms Props.C07.tie_joint
#print axioms Props.C07.keys_match_public_data
#print axioms Props.C07.share_consistency_invariant
#print axioms Props.C07.honest_receivers_agree
#print axioms Props.C07.end_result_is_public_result
#print axioms Props.C07.broadcasts_are_the_complaint
#print axioms Props.C07.shadow_simulation
#print axioms Props.C07.honest_receivers_same_end
#print axioms Props.C07.reads_nonzero_bls
#print axioms Props.C07.joint_instances_agree
#print axioms Props.C07.joint_irrelevant_broadcasts_ignored
#print axioms Props.C07.joint_instance_views_agree
#print axioms Props.C07.joint_end_agrees_given_instances_partial
#print axioms Props.C07.honest_dealer_instance_views_agree
#print axioms Props.C07.dealer_instance_after_start
#print axioms Props.C07.joint_execution_is_instancewise
#print axioms Props.C07.joint_instances_after_start
#print axioms Props.C07.joint_feldman_agreement
#print axioms Props.C07.dealer_start_outputs
#print axioms Props.C07.receiver_accepts_dealer_emission
#print axioms Props.C07.dealer_answers_complaint
#print axioms Props.C07.receiver_accepts_dealer_answer
