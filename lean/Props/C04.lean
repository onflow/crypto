import Proofs.AbsAgg
import Extracted.Guards

/-! # C04 — key and signature aggregation are mutually consistent group homomorphisms -/

namespace Props.C04

variable {r : ℕ} [Fact r.Prime] {P : PairingGroups r}

/-- the public key of the aggregated private key is the aggregate of the public keys -/
theorem pub_aggSK (sks : List (ZMod r)) (h : sks ≠ []) :
    (aggSK sks).map (pubOf P) = aggPK (sks.map (pubOf P)) := by
  rw [aggSK_of_ne_nil h, aggPK_of_ne_nil (mt List.map_eq_nil_iff.1 h)]
  exact congrArg Except.ok List.sum_smul

/-- aggregating the individual signatures gives the signature of the aggregated private key -/
theorem aggSig_sign (C : Codec P) (sks : List (ZMod r)) (hne : sks ≠ []) (h : P.G1) :
    aggSig C (sks.map (fun sk => signCore C sk h)) = .ok (signCore C sks.sum h) := by
  have hs : (sks.map fun sk => P.ι (sk • h)).sum = P.ι (sks.sum • h) := by
    rw [List.sum_smul, map_list_sum, List.map_map]; rfl
  have e := aggSig_encode C (xs := sks.map fun sk => P.ι (sk • h)) (mt List.map_eq_nil_iff.1 hne)
  rw [List.map_map, hs] at e
  exact e

/-- `RemoveBLSPublicKeys(Aggregate(A ++ B), B) = Aggregate(A)` -/
theorem remove_agg (A B : List P.G2) : removePK (A ++ B).sum B = A.sum := by
  simp [removePK]

/-- results do not depend on the order of the inputs -/
theorem agg_perm (pks pks' : List P.G2) (h : pks.Perm pks') : aggPK pks = aggPK pks' := by
  unfold aggPK
  simp only [h.sum_eq, perm_eq_nil h]

theorem aggSK_perm (sks sks' : List (ZMod r)) (h : sks.Perm sks') : aggSK sks = aggSK sks' := by
  unfold aggSK
  simp only [h.sum_eq, perm_eq_nil h]

/-- results do not depend on how the aggregation is nested -/
theorem agg_nest (groups : List (List P.G2)) : (groups.map List.sum).sum = groups.flatten.sum := by
  induction groups with
  | nil => rfl
  | cons g t ih => rw [List.map_cons, List.sum_cons, ih, List.flatten_cons, List.sum_append]

/-- keys that sum to the identity give the identity key; signatures that sum to the identity give the identity encoding -/
theorem agg_cancel (C : Codec P) (sk : ZMod r) (h : P.G1) :
    aggPK [pubOf P sk, pubOf P (-sk)] = .ok 0 ∧
    aggSig C [signCore C sk h, signCore C (-sk) h] = .ok (C.encode 0) := by
  constructor
  · simp [aggPK, pubOf]
  · have := aggSig_sign C [sk, -sk] (by simp) h
    simpa [signCore] using this

/-- documented errors: empty lists, malformed signatures -/
theorem agg_errors (C : Codec P) :
    aggSK ([] : List (ZMod r)) = .error .emptyList ∧ aggPK ([] : List P.G2) = .error .emptyList ∧
    aggSig C [] = .error .emptyList ∧
    ∀ (pre : List P.E1) (post : List Bytes) (bad : Bytes), (bad.length ≠ 48 ∨ C.decode bad = none) →
      aggSig C (pre.map C.encode ++ bad :: post) = .error .invalidSignature := by
  refine ⟨rfl, rfl, rfl, ?_⟩
  intro pre post bad hbad
  unfold aggSig
  rw [if_neg (by simp)]
  have : decodeAll C (pre.map C.encode ++ bad :: post) = none := by
    induction pre with
    | nil =>
      simp only [List.map_nil, List.nil_append, decodeAll]
      rcases hbad with hl | hd
      · simp [hl]
      · split
        · rfl
        · simp [hd]
    | cons x t ih => rw [List.map_cons, List.cons_append, decodeAll_cons_encode, ih]; rfl
  rw [this]

/-- tie: the empty-list guards of the code as it is now -/
theorem tie_guards (n : Int) :
    Extracted.Guards.crypto_AggregateBLSSignatures_g0 n = decide (n = 0) ∧
    Extracted.Guards.crypto_AggregateBLSPrivateKeys_g0 n = decide (n = 0) ∧
    Extracted.Guards.crypto_AggregateBLSPublicKeys_g0 n = decide (n = 0) ∧
    Extracted.Guards.crypto_RemoveBLSPublicKeys_g1 n = decide (n = 0) := ⟨rfl, rfl, rfl, rfl⟩

end Props.C04

#print axioms Props.C04.pub_aggSK
#print axioms Props.C04.aggSig_sign
#print axioms Props.C04.remove_agg
#print axioms Props.C04.agg_perm
#print axioms Props.C04.aggSK_perm
#print axioms Props.C04.agg_nest
#print axioms Props.C04.agg_cancel
#print axioms Props.C04.agg_errors
#print axioms Props.C04.tie_guards
