import Model.Dkg
import Proofs.DkgHandlers
import Extracted.Guards
import Extracted.Consts

/-! # C10 — DKG instances follow the documented single-use state machine

Theorems over the state-machine models of `Model/Dkg.lean`, for every crypto-operations record `O`,
every state and every argument. -/

namespace Props.C10
open Model Model.Dkg

variable {O : Ops}

def isReject : Res → Bool
  | .invalidTransition => true
  | .invalidInputs => true
  | _ => false

/-- phases of the documented automaton of the Qual-based protocols -/
inductive Phase | notRunning | round1 | round2 | round3
deriving DecidableEq, Repr

def phase (s : St O) : Phase :=
  if !s.running then .notRunning
  else if !s.sharesTimeout then .round1
  else if !s.complaintsTimeout then .round2
  else .round3

/-! ### the class of every answer is the one the documented automaton prescribes -/

theorem guarded_reject_noop (s : St O) (orig : Int) (body : St O × List Out)
    (h : isReject (guarded s orig body).2.2 = true) : (guarded s orig body).1 = s ∧ (guarded s orig body).2.1 = [] := by
  unfold guarded at h ⊢; split
  · exact ⟨rfl, rfl⟩
  · split
    · exact ⟨rfl, rfl⟩
    · rename_i h1 h2; rw [if_neg h1, if_neg h2] at h; cases h

/-- message handlers and ForceDisqualify (Feldman-VSS-Qual): state-transition error iff not running,
    else invalid-input error iff the index is out of range, else accepted -/
theorem fvssq_handler_class (s : St O) (orig : Int) (m : Bytes) :
    (FvssQ.handleBroadcast s orig m).2.2 =
      (if !s.running then .invalidTransition else if badIndex s.size orig then .invalidInputs else .ok) ∧
    (FvssQ.handlePrivate s orig m).2.2 =
      (if !s.running then .invalidTransition else if badIndex s.size orig then .invalidInputs else .ok) ∧
    (FvssQ.forceDisqualify s orig).2.2 =
      (if !s.running then .invalidTransition else if badIndex s.size orig then .invalidInputs else .ok) :=
  ⟨guarded_class s orig (FvssQ.bcastBody s orig.toNat m), guarded_class s orig (FvssQ.privBody s orig.toNat m),
    guarded_class s orig ((if orig.toNat = s.dealer then { s with disqualified := true } else s), [])⟩

theorem fvss_handler_class (s : St O) (orig : Int) (m : Bytes) :
    (Fvss.handleBroadcast s orig m).2.2 =
      (if !s.running then .invalidTransition else if badIndex s.size orig then .invalidInputs else .ok) ∧
    (Fvss.handlePrivate s orig m).2.2 =
      (if !s.running then .invalidTransition else if badIndex s.size orig then .invalidInputs else .ok) ∧
    (Fvss.forceDisqualify s orig).2.2 =
      (if !s.running then .invalidTransition else if badIndex s.size orig then .invalidInputs else .ok) :=
  ⟨guarded_class s orig (Fvss.bcastBody s orig.toNat m), guarded_class s orig (Fvss.privBody s orig.toNat m),
    guarded_class s orig ((if orig.toNat = s.dealer then { s with validKey := false } else s), [])⟩

/-- the complaints timeout only ever follows the shares timeout (invariant of every reachable state) -/
def TimeoutsOrdered (s : St O) : Prop := s.complaintsTimeout = true → s.sharesTimeout = true

/-- NextTimeout (Qual): accepted exactly in rounds 1 and 2 -/
theorem fvssq_timeout_class (s : St O) (hw : TimeoutsOrdered s) :
    (FvssQ.nextTimeout s).2.2 = (if phase s = .round1 ∨ phase s = .round2 then .ok else .invalidTransition) := by
  unfold TimeoutsOrdered at hw
  unfold FvssQ.nextTimeout phase
  cases h0 : s.running <;> cases h1 : s.sharesTimeout <;> cases h2 : s.complaintsTimeout <;> simp_all

theorem startBody_ne_IT (s : St O) (seed : Bytes) : (startBody s seed).2.2 ≠ .invalidTransition := by
  unfold startBody
  simp only
  split
  · split
    · simp
    · rename_i r hne heq
      unfold generateShares at heq
      split at heq
      · cases heq; simp
      · split at heq
        · cases heq; simp
        · cases heq; simp at hne
  · simp

/-- Start: refused with a state-transition error exactly while running -/
theorem start_class (s : St O) (seed : Bytes) :
    (start s seed).2.2 = .invalidTransition ↔ s.running = true := by
  unfold start
  constructor
  · intro h
    split at h
    · assumption
    · exact absurd h (startBody_ne_IT s seed)
  · intro h; simp [h]

theorem fvssq_endBody_accepted (s : St O) :
    (FvssQ.endBody s).1.running = false ∧ isReject (FvssQ.endBody s).2.2 = false := by
  -- `settle` and what follows only ever set `disqualified`
  have hs : (FvssQ.settle { s with running := false }).1.running = false := by
    unfold FvssQ.settle; split <;> rfl
  unfold FvssQ.endBody
  dsimp only
  generalize FvssQ.settle { s with running := false } = r at hs ⊢
  obtain ⟨t, o⟩ := r
  dsimp only at hs ⊢
  split; · exact ⟨hs, rfl⟩
  split; · exact ⟨hs, rfl⟩
  split; · exact ⟨hs, rfl⟩
  split <;> exact ⟨hs, rfl⟩

theorem fvss_endBody_not_reject (s : St O) : isReject (Fvss.endBody s) = false := by
  unfold Fvss.endBody
  split; · rfl
  split; · rfl
  split; · rfl
  split <;> rfl

/-- End (Qual): refused unless running with both timeouts passed -/
theorem fvssq_end_class (s : St O) (hw : TimeoutsOrdered s) :
    (FvssQ.end_ s).2.2 = .invalidTransition ↔ phase s ≠ .round3 := by
  unfold TimeoutsOrdered at hw
  unfold FvssQ.end_ phase
  cases hr : s.running <;> cases h1 : s.sharesTimeout <;> cases h2 : s.complaintsTimeout <;> simp_all
  have := (fvssq_endBody_accepted s).2
  intro h; rw [h] at this; simp [isReject] at this

/-- plain Feldman VSS: NextTimeout is a no-op; End is refused exactly when not running -/
theorem fvss_end_class (s : St O) : (Fvss.end_ s).2.2 = .invalidTransition ↔ s.running = false := by
  unfold Fvss.end_
  cases hr : s.running <;> simp
  have := fvss_endBody_not_reject s
  intro h; rw [h] at this; simp [isReject] at this

theorem fvss_timeout_noop (s : St O) : step (.fvss s) .nextTimeout = (.fvss s, [], .ok) := rfl

/-! ### a call rejected for a state-machine or index reason changes nothing and emits nothing -/

theorem fvssq_reject_noop (s : St O) (orig : Int) (m : Bytes) :
    (isReject (FvssQ.handleBroadcast s orig m).2.2 = true →
      (FvssQ.handleBroadcast s orig m).1 = s ∧ (FvssQ.handleBroadcast s orig m).2.1 = []) ∧
    (isReject (FvssQ.handlePrivate s orig m).2.2 = true →
      (FvssQ.handlePrivate s orig m).1 = s ∧ (FvssQ.handlePrivate s orig m).2.1 = []) ∧
    (isReject (FvssQ.forceDisqualify s orig).2.2 = true →
      (FvssQ.forceDisqualify s orig).1 = s ∧ (FvssQ.forceDisqualify s orig).2.1 = []) ∧
    (isReject (FvssQ.nextTimeout s).2.2 = true →
      (FvssQ.nextTimeout s).1 = s ∧ (FvssQ.nextTimeout s).2.1 = []) ∧
    (isReject (FvssQ.end_ s).2.2 = true → (FvssQ.end_ s).1 = s ∧ (FvssQ.end_ s).2.1 = []) := by
  refine ⟨guarded_reject_noop s orig (FvssQ.bcastBody s orig.toNat m),
    guarded_reject_noop s orig (FvssQ.privBody s orig.toNat m),
    guarded_reject_noop s orig ((if orig.toNat = s.dealer then { s with disqualified := true } else s), []), ?_, ?_⟩
  · unfold FvssQ.nextTimeout
    split; · intro _; exact ⟨rfl, rfl⟩
    split; · intro _; exact ⟨rfl, rfl⟩
    intro h; cases h
  · unfold FvssQ.end_
    split; · intro _; exact ⟨rfl, rfl⟩
    split; · intro _; exact ⟨rfl, rfl⟩
    intro h; rw [(fvssq_endBody_accepted s).2] at h; cases h

theorem fvss_reject_noop (s : St O) (orig : Int) (m : Bytes) :
    (isReject (Fvss.handleBroadcast s orig m).2.2 = true →
      (Fvss.handleBroadcast s orig m).1 = s ∧ (Fvss.handleBroadcast s orig m).2.1 = []) ∧
    (isReject (Fvss.handlePrivate s orig m).2.2 = true →
      (Fvss.handlePrivate s orig m).1 = s ∧ (Fvss.handlePrivate s orig m).2.1 = []) ∧
    (isReject (Fvss.forceDisqualify s orig).2.2 = true →
      (Fvss.forceDisqualify s orig).1 = s ∧ (Fvss.forceDisqualify s orig).2.1 = []) ∧
    (isReject (Fvss.end_ s).2.2 = true → (Fvss.end_ s).1 = s ∧ (Fvss.end_ s).2.1 = []) := by
  refine ⟨guarded_reject_noop s orig (Fvss.bcastBody s orig.toNat m),
    guarded_reject_noop s orig (Fvss.privBody s orig.toNat m),
    guarded_reject_noop s orig ((if orig.toNat = s.dealer then { s with validKey := false } else s), []), ?_⟩
  unfold Fvss.end_
  split; · intro _; exact ⟨rfl, rfl⟩
  intro h; simp only at h; rw [fvss_endBody_not_reject] at h; cases h

theorem start_reject_noop (s : St O) (seed : Bytes) (h : (start s seed).2.2 = .invalidTransition) :
    (start s seed).1 = s ∧ (start s seed).2.1 = [] := by
  have hr := (start_class s seed).1 h
  unfold start
  simp [hr]

/-- a single Qual instance run over a history of calls, with the answer to each; by `fvssq_reject_noop` and
    `start_reject_noop` a rejected call leaves the state as it was (that erasing the rejected calls changes no later
    answer is the intended corollary; it is not stated as a theorem) -/
def runQ (s : St O) : List Call → St O × List (List Out × Res)
  | [] => (s, [])
  | c :: cs =>
    let (s', o, r) := match c with
      | .start seed => start s seed
      | .nextTimeout => FvssQ.nextTimeout s
      | .end_ => FvssQ.end_ s
      | .bcast orig m => FvssQ.handleBroadcast s orig m
      | .priv orig m => FvssQ.handlePrivate s orig m
      | .forceDisq p => FvssQ.forceDisqualify s p
      | .running => (s, [], .bool s.running)
    let (s'', rest) := runQ s' cs
    (s'', (o, r) :: rest)

def stepQ (s : St O) (c : Call) : St O × List Out × Res :=
  match c with
  | .start seed => start s seed
  | .nextTimeout => FvssQ.nextTimeout s
  | .end_ => FvssQ.end_ s
  | .bcast orig m => FvssQ.handleBroadcast s orig m
  | .priv orig m => FvssQ.handlePrivate s orig m
  | .forceDisq p => FvssQ.forceDisqualify s p
  | .running => (s, [], .bool s.running)

/-- message handlers and ForceDisqualify never change the phase -/
theorem handlers_preserve_phase (s : St O) (orig : Int) (m : Bytes) :
    phase (FvssQ.handleBroadcast s orig m).1 = phase s ∧ phase (FvssQ.handlePrivate s orig m).1 = phase s ∧
    phase (FvssQ.forceDisqualify s orig).1 = phase s := by
  have hp : ∀ s' : St O, sameFlags s s' → phase s' = phase s := by
    intro s' h; unfold phase; rw [h.1, h.2.1, h.2.2.1]
  refine ⟨?_, ?_, ?_⟩
  · rcases guarded_state s orig (FvssQ.bcastBody s orig.toNat m) with h | h
    · exact congrArg phase h
    · exact (congrArg phase h).trans (hp _ (bcastBody_flags s _ m))
  · rcases guarded_state s orig (FvssQ.privBody s orig.toNat m) with h | h
    · exact congrArg phase h
    · exact (congrArg phase h).trans (hp _ (privBody_flags s _ m))
  · rcases guarded_state s orig ((if orig.toNat = s.dealer then { s with disqualified := true } else s), []) with h | h
    · exact congrArg phase h
    · refine (congrArg phase h).trans ?_
      show phase (if _ then _ else _) = _
      split <;> rfl

/-- an accepted NextTimeout moves to the next round: round 1 → round 2 → round 3, so it is accepted exactly
    twice per run -/
theorem fvssq_timeout_progress (s : St O) (hw : TimeoutsOrdered s) :
    (phase s = .round1 → phase (FvssQ.nextTimeout s).1 = .round2) ∧
    (phase s = .round2 → phase (FvssQ.nextTimeout s).1 = .round3) ∧
    TimeoutsOrdered (FvssQ.nextTimeout s).1 := by
  have e1 : (FvssQ.timeoutBody s).1.running = s.running := Proofs.DkgCommute.tstep_running s
  have e2 : (FvssQ.timeoutBody s).1.sharesTimeout = true := Proofs.DkgCommute.tstep_st s
  have e3 : (FvssQ.timeoutBody s).1.complaintsTimeout = (s.sharesTimeout || s.complaintsTimeout) :=
    Proofs.DkgCommute.tstep_ct s
  unfold TimeoutsOrdered at hw ⊢
  unfold FvssQ.nextTimeout phase
  cases hr : s.running <;> cases h1 : s.sharesTimeout <;> cases h2 : s.complaintsTimeout <;> simp_all

/-- End always leaves the instance not running (whenever it is not refused) -/
theorem end_stops (s : St O) :
    ((FvssQ.end_ s).2.2 ≠ .invalidTransition → (FvssQ.end_ s).1.running = false) ∧
    ((Fvss.end_ s).2.2 ≠ .invalidTransition → (Fvss.end_ s).1.running = false) := by
  constructor
  · intro h
    unfold FvssQ.end_ at h ⊢
    split; · simp_all
    split; · simp_all
    exact (fvssq_endBody_accepted s).1
  · intro h
    unfold Fvss.end_ at h ⊢
    split; · simp_all
    rfl

/-- Joint-Feldman: every call is refused with a state-transition error while the protocol is not running,
    without touching the state; ForceDisqualify with an out-of-range index is refused with an invalid-input error -/
theorem joint_not_running (j : JSt O) (h : j.jointRunning = false) (orig : Int) (m : Bytes) :
    Joint.nextTimeout j = (j, [], .invalidTransition) ∧ Joint.end_ j = (j, [], .invalidTransition) ∧
    Joint.handleBroadcast j orig m = (j, [], .invalidTransition) ∧
    Joint.handlePrivate j orig m = (j, [], .invalidTransition) ∧
    Joint.forceDisqualify j orig = (j, [], .invalidTransition) := by
  simp [Joint.nextTimeout, Joint.end_, Joint.handleBroadcast, Joint.handlePrivate, Joint.forceDisqualify, h]

theorem joint_force_range (j : JSt O) (h : j.jointRunning = true) (p : Int) (hb : badIndex j.size p = true) :
    Joint.forceDisqualify j p = (j, [], .invalidInputs) := by
  simp [Joint.forceDisqualify, h, hb]

theorem joint_start_running (j : JSt O) (h : j.jointRunning = true) (seed : Bytes) :
    Joint.start j seed = (j, [], .invalidTransition) := by
  simp [Joint.start, h]

/-- tie: the guards and constants of the model are those extracted from the Go source -/
theorem tie_guards (size threshold me dealer orig n : Int) :
    Extracted.Guards.crypto_newDKGCommon_g0 size = (decide (size < 2) || decide (size > 254)) ∧
    Extracted.Guards.crypto_newDKGCommon_g2 size threshold = (decide (threshold ≥ size) || decide (threshold < 1)) ∧
    Extracted.Guards.crypto_feldmanVSSstate_HandleBroadcastMsg_g1 n orig = (decide (orig ≥ n) || decide (orig < 0)) ∧
    Extracted.Consts.crypto_DKGMinSize = 2 ∧ Extracted.Consts.crypto_DKGMaxSize = 254 ∧
    Extracted.Consts.crypto_MinimumThreshold = 1 ∧
    Extracted.Consts.crypto_feldmanVSSShare = 0 ∧ Extracted.Consts.crypto_feldmanVSSVerifVec = 1 ∧
    Extracted.Consts.crypto_feldmanVSSComplaint = 2 ∧ Extracted.Consts.crypto_feldmanVSSComplaintAnswer = 3 := by
  refine ⟨rfl, rfl, rfl, by decide, by decide, by decide, by decide, by decide, by decide, by decide⟩

end Props.C10

#print axioms Props.C10.fvssq_handler_class
#print axioms Props.C10.fvss_handler_class
#print axioms Props.C10.fvssq_timeout_class
#print axioms Props.C10.start_class
#print axioms Props.C10.fvssq_end_class
#print axioms Props.C10.fvss_end_class
#print axioms Props.C10.fvss_timeout_noop
#print axioms Props.C10.fvssq_reject_noop
#print axioms Props.C10.fvss_reject_noop
#print axioms Props.C10.start_reject_noop
#print axioms Props.C10.handlers_preserve_phase
#print axioms Props.C10.fvssq_timeout_progress
#print axioms Props.C10.end_stops
#print axioms Props.C10.joint_not_running
#print axioms Props.C10.joint_force_range
#print axioms Props.C10.joint_start_running
#print axioms Props.C10.tie_guards
