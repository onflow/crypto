import Proofs.EcdsaModel
import Proofs.EcdsaExact
import Proofs.EcdsaTwin
import Proofs.Generators

/-! # C11 (executable model) — every signature the model's signing function returns is accepted by the model's
verification, for both curves, every private key, nonce, and hash: by the group law of the curve (Mathlib), not by
sampling -/

namespace Props.C11Model
open Model Model.Curve Proofs.CurveGroup Proofs.CurveInst Proofs.EcdsaModel

instance fact_p256_n : Fact (Nat.Prime Ecdsa.p256.n) := ⟨Proofs.Primes.prime_p256_n⟩

instance fact_k256_n : Fact (Nat.Prime Ecdsa.k256.n) := ⟨Proofs.Primes.prime_k256_n⟩

instance : Fact (Nat.Prime Ecdsa.p256.p) := fact_p256
instance : Fact (Nat.Prime Ecdsa.k256.p) := fact_k256

theorem good_p256 : Good Ecdsa.p256 p256a p256b :=
  ⟨p256_C, p256_Δ, p256_two, p256_bits, p256_g_valid, Proofs.Generators.mul_n_p256, by decide +kernel, by decide +kernel⟩

theorem good_k256 : Good Ecdsa.k256 0 7 :=
  ⟨k256_C, k256_Δ, k256_two, k256_bits, k256_g_valid, Proofs.Generators.mul_n_k256, by decide +kernel, by decide +kernel⟩

/-- **P-256: sign ⇒ verify in the executable model** -/
theorem p256_sign_verify (d k : ℕ) (hd : d < Ecdsa.p256.n) (hk : k < Ecdsa.p256.n) (h sig : Bytes) (Q : ℕ × ℕ)
    (hQ : Ecdsa.publicKeyOf Ecdsa.p256 d = some Q) (hs : Ecdsa.signWith Ecdsa.p256 d k h = some sig) :
    Ecdsa.verifyHash Ecdsa.p256 Q h sig = true := sign_verify good_p256 d k hd hk h sig Q hQ hs

/-- **secp256k1: sign ⇒ verify in the executable model** -/
theorem k256_sign_verify (d k : ℕ) (hd : d < Ecdsa.k256.n) (hk : k < Ecdsa.k256.n) (h sig : Bytes) (Q : ℕ × ℕ)
    (hQ : Ecdsa.publicKeyOf Ecdsa.k256 d = some Q) (hs : Ecdsa.signWith Ecdsa.k256 d k h = some sig) :
    Ecdsa.verifyHash Ecdsa.k256 Q h sig = true := sign_verify good_k256 d k hd hk h sig Q hQ hs

/-- **P-256: verification is exact** - under the public key of `d`, the model accepts exactly the outputs of the
    signing function over all nonces `0 < k < n` (so every accepted `(r, s)` is a genuine signature of the key holder) -/
theorem p256_verify_iff_signed (d : ℕ) (hd : d < Ecdsa.p256.n) (h sig : Bytes) (Q : ℕ × ℕ)
    (hQ : Ecdsa.publicKeyOf Ecdsa.p256 d = some Q) :
    Ecdsa.verifyHash Ecdsa.p256 Q h sig = true ↔
      ∃ k, 0 < k ∧ k < Ecdsa.p256.n ∧ Ecdsa.signWith Ecdsa.p256 d k h = some sig :=
  Proofs.EcdsaExact.verify_iff_signed good_p256 d hd h sig Q hQ

/-- **secp256k1: verification is exact** -/
theorem k256_verify_iff_signed (d : ℕ) (hd : d < Ecdsa.k256.n) (h sig : Bytes) (Q : ℕ × ℕ)
    (hQ : Ecdsa.publicKeyOf Ecdsa.k256 d = some Q) :
    Ecdsa.verifyHash Ecdsa.k256 Q h sig = true ↔
      ∃ k, 0 < k ∧ k < Ecdsa.k256.n ∧ Ecdsa.signWith Ecdsa.k256 d k h = some sig :=
  Proofs.EcdsaExact.verify_iff_signed good_k256 d hd h sig Q hQ

/-- **P-256: the twin `(r, n - s)` of an accepted signature is accepted** (ECDSA malleability, byte level) -/
theorem p256_twin_accepted (d : ℕ) (hd : d < Ecdsa.p256.n) (h sig : Bytes) (Q : ℕ × ℕ)
    (hQ : Ecdsa.publicKeyOf Ecdsa.p256 d = some Q) (hv : Ecdsa.verifyHash Ecdsa.p256 Q h sig = true) :
    Ecdsa.verifyHash Ecdsa.p256 Q h
      (natBE 32 (beNat (sig.take 32)) ++ natBE 32 (Ecdsa.p256.n - beNat (sig.drop 32))) = true :=
  Proofs.EcdsaTwin.verify_twin good_p256 d hd h sig Q hQ hv

/-- **secp256k1: the twin of an accepted signature is accepted** -/
theorem k256_twin_accepted (d : ℕ) (hd : d < Ecdsa.k256.n) (h sig : Bytes) (Q : ℕ × ℕ)
    (hQ : Ecdsa.publicKeyOf Ecdsa.k256 d = some Q) (hv : Ecdsa.verifyHash Ecdsa.k256 Q h sig = true) :
    Ecdsa.verifyHash Ecdsa.k256 Q h
      (natBE 32 (beNat (sig.take 32)) ++ natBE 32 (Ecdsa.k256.n - beNat (sig.drop 32))) = true :=
  Proofs.EcdsaTwin.verify_twin good_k256 d hd h sig Q hQ hv

/-- non-vacuity: a signature of the model under private key 5 with nonce 7 on secp256k1 exists and is accepted -/
example : ∃ sig Q, Ecdsa.publicKeyOf Ecdsa.k256 5 = some Q ∧ Ecdsa.signWith Ecdsa.k256 5 7 (List.replicate 32 9) = some sig ∧
    Ecdsa.verifyHash Ecdsa.k256 Q (List.replicate 32 9) sig = true := by
  cases hq : Ecdsa.publicKeyOf Ecdsa.k256 5 with
  | none => exact absurd hq (by decide +kernel)
  | some Q =>
    cases hs : Ecdsa.signWith Ecdsa.k256 5 7 (List.replicate 32 9) with
    | none => exact absurd hs (by decide +kernel)
    | some sig => exact ⟨sig, Q, rfl, rfl, k256_sign_verify 5 7 (by decide +kernel) (by decide +kernel) _ sig Q hq hs⟩

end Props.C11Model

#print axioms Props.C11Model.p256_sign_verify
#print axioms Props.C11Model.k256_sign_verify
#print axioms Props.C11Model.p256_verify_iff_signed
#print axioms Props.C11Model.k256_verify_iff_signed
#print axioms Props.C11Model.p256_twin_accepted
#print axioms Props.C11Model.k256_twin_accepted
