import Proofs.CurveInst
import Proofs.CurveRep

/-! # C12 (executable model) — the ECDSA public key of the model is the private scalar times the generator, in the group
of the curve as Mathlib defines it (P-256 and secp256k1) -/

namespace Props.C12Model
open Model Model.Curve Proofs.CurveGroup Proofs.CurveInst

/-- P-256: `publicKeyOf d` is `d • G` in the group of points of the curve over `ZMod p`, and a canonical point of it -/
theorem p256_public_key_is_scalar_mul (d : ℕ) (hd : d < 2 ^ 800) :
    Valid Ecdsa.p256P p256a p256b (Ecdsa.publicKeyOf Ecdsa.p256 d) ∧
      toPoint Ecdsa.p256P p256a p256b (Ecdsa.publicKeyOf Ecdsa.p256 d) = d • toPoint Ecdsa.p256P p256a p256b Ecdsa.p256.g :=
  mul_eq Ecdsa.p256P p256a p256b p256_Δ p256_two p256_bits d hd Ecdsa.p256.g p256_g_valid

/-- secp256k1: the same -/
theorem k256_public_key_is_scalar_mul (d : ℕ) (hd : d < 2 ^ 800) :
    Valid Ecdsa.k256P 0 7 (Ecdsa.publicKeyOf Ecdsa.k256 d) ∧
      toPoint Ecdsa.k256P 0 7 (Ecdsa.publicKeyOf Ecdsa.k256 d) = d • toPoint Ecdsa.k256P 0 7 Ecdsa.k256.g :=
  mul_eq Ecdsa.k256P 0 7 k256_Δ k256_two k256_bits d hd Ecdsa.k256.g k256_g_valid

/-- public keys of private keys that differ by a multiple of the order of the generator coincide; in particular the
    key derivation's reduction into `[1, n-1]` loses nothing: stated for any `n` with `n • G = 0` in the model -/
theorem k256_public_key_mod (d n : ℕ) (hd : d < 2 ^ 800) (hn : Curve.mul Ecdsa.k256.C n Ecdsa.k256.g = none)
    (hn8 : n < 2 ^ 800) (hn0 : 0 < n) :
    Ecdsa.publicKeyOf Ecdsa.k256 (d % n) = Ecdsa.publicKeyOf Ecdsa.k256 d := by
  have e0 := (mul_eq_none_iff Ecdsa.k256P 0 7 k256_Δ k256_two k256_bits n hn8 _ k256_g_valid).1 (k256_C ▸ hn)
  unfold Ecdsa.publicKeyOf
  rw [k256_C, mul_ofPoint Ecdsa.k256P 0 7 k256_Δ k256_two k256_bits _ ((Nat.mod_lt _ hn0).trans hn8) _ k256_g_valid,
    mul_ofPoint Ecdsa.k256P 0 7 k256_Δ k256_two k256_bits d hd _ k256_g_valid, ← nsmul_eq_mod_nsmul d e0]

end Props.C12Model

#print axioms Props.C12Model.p256_public_key_is_scalar_mul
#print axioms Props.C12Model.k256_public_key_is_scalar_mul
#print axioms Props.C12Model.k256_public_key_mod
