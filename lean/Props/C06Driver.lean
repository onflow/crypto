import Props.C06Model
import Proofs.E1Codec
import Driver.Threshold
import Proofs.BlsLaws

/-! # C06 (the function the driver runs) — `Driver.Threshold.interpolate`, the oracle every reconstruction of the
implementation is compared with, returns the signature of the secret `Q(0)` on shares of any polynomial `Q`:
codec round trip, agreement of the textbook coefficient with the limb-batched loop (the "poison" check never fires),
and `Props.C06Model.model_threshold_reconstruction`. -/

namespace Props.C06Driver
open Model Model.Curve Proofs.CurveGroup Proofs.CurveInst

local notation "r" => Model.Bls.r

/-- the body of the loop of `Driver.Threshold.coeffSpec` -/
def specStep (xs : List ℕ) (i acc j : ℕ) : ℕ :=
  if j = i then acc else
    acc * xs.getD j 0 % r * powMod ((xs.getD j 0 + r - xs.getD i 0) % r) (r - 2) r % r

theorem coeffSpec_eq (xs : List ℕ) (i : ℕ) :
    Driver.Threshold.coeffSpec xs i = (List.range xs.length).foldl (specStep xs i) 1 := rfl

theorem specStep_self (xs : List ℕ) (i acc : ℕ) : specStep xs i acc i = acc := if_pos rfl

theorem specStep_lt (xs : List ℕ) (i acc j : ℕ) (h : acc < r) : specStep xs i acc j < r := by
  unfold specStep
  split
  · exact h
  · exact Nat.mod_lt _ Bls.r_pos

theorem specStep_cast (xs : List ℕ) (hb : ∀ x ∈ xs, x ≤ 255) (i acc j : ℕ) (hj : j ≠ i) :
    ((specStep xs i acc j : ℕ) : ZMod r) = (acc : ZMod r) *
      (((xs.getD j 0 : ℕ) : ZMod r) / (((xs.getD j 0 : ℕ) : ZMod r) - ((xs.getD i 0 : ℕ) : ZMod r))) := by
  have hle : xs.getD i 0 ≤ xs.getD j 0 + r := by
    have := Proofs.Limbs.getD_le xs hb i
    have := Bls.r_gt
    omega
  unfold specStep
  rw [if_neg hj, ZMod.natCast_mod, Nat.cast_mul, ZMod.natCast_mod, Nat.cast_mul,
    Proofs.PowMod.powMod_inv r Bls.r_two Bls.r_bits, ZMod.natCast_mod, Nat.cast_sub hle, Nat.cast_add,
    ZMod.natCast_self, add_zero, div_eq_mul_inv, mul_assoc]

theorem coeffSpec_cast (xs : List ℕ) (hb : ∀ x ∈ xs, x ≤ 255) (i : ℕ) :
    ((Driver.Threshold.coeffSpec xs i : ℕ) : ZMod r) =
      ∏ j ∈ (Finset.range xs.length).erase i,
        ((xs.getD j 0 : ℕ) : ZMod r) / (((xs.getD j 0 : ℕ) : ZMod r) - ((xs.getD i 0 : ℕ) : ZMod r)) := by
  have key : ∀ (n : ℕ) (acc : ℕ), ((((List.range n).foldl (specStep xs i) acc : ℕ)) : ZMod r) =
      (acc : ZMod r) * ∏ j ∈ (Finset.range n).erase i,
        ((xs.getD j 0 : ℕ) : ZMod r) / (((xs.getD j 0 : ℕ) : ZMod r) - ((xs.getD i 0 : ℕ) : ZMod r)) := by
    intro n
    induction n with
    | zero =>
      intro acc
      rw [List.range_zero, List.foldl_nil, Finset.range_zero, Finset.erase_empty, Finset.prod_empty, mul_one]
    | succ n ih =>
      intro acc
      rw [List.range_succ, List.foldl_append, List.foldl_cons, List.foldl_nil, Finset.range_add_one]
      by_cases hn : n = i
      · subst hn
        rw [specStep_self, Finset.erase_insert_eq_erase, ih acc]
      · rw [specStep_cast xs hb i _ n hn, ih acc, Finset.erase_insert_of_ne hn, Finset.prod_insert (fun h => Nat.lt_irrefl n (Finset.mem_range.1 (Finset.mem_of_mem_erase h))),
          mul_assoc, mul_comm (Finset.prod _ _)]
  rw [coeffSpec_eq, key xs.length 1, Nat.cast_one, one_mul]

theorem coeffSpec_lt (xs : List ℕ) (i : ℕ) : Driver.Threshold.coeffSpec xs i < r := by
  have inv : ∀ (l : List ℕ) (acc : ℕ), acc < r → l.foldl (specStep xs i) acc < r := by
    intro l
    induction l with
    | nil => exact fun _ h => h
    | cons j t ih => exact fun acc h => ih _ (specStep_lt xs i acc j h)
  exact inv _ 1 (lt_trans (by decide) Bls.r_two)

/-- the two ways the driver computes the coefficient agree - the "poison" branch of `interpolate` is dead -/
theorem coeffSpec_eq_impl (xs : List ℕ) (hb : ∀ x ∈ xs, x ≤ 255) (i : ℕ) :
    Driver.Threshold.coeffSpec xs i = Driver.Threshold.coeffImpl xs i := by
  have hl2 : Driver.Threshold.coeffImpl xs i < r := by
    unfold Driver.Threshold.coeffImpl Model.Threshold.coeff
    exact Nat.mod_lt _ Bls.r_pos
  have hc : ((Driver.Threshold.coeffSpec xs i : ℕ) : ZMod r) = ((Driver.Threshold.coeffImpl xs i : ℕ) : ZMod r) :=
    (coeffSpec_cast xs hb i).trans (@Proofs.LagrangeCoeff.coeff_spec Model.Bls.r _ xs i Bls.r_two Bls.r_bits hb).symm
  have := congrArg ZMod.val hc
  rwa [ZMod.val_natCast, ZMod.val_natCast, Nat.mod_eq_of_lt (coeffSpec_lt xs i), Nat.mod_eq_of_lt hl2] at this

theorem range_map_getD (xs : List ℕ) : (List.range xs.length).map (fun i => xs.getD i 0) = xs := by
  apply List.ext_getElem
  · simp
  · intro i h1 h2
    simp [List.getD, List.getElem?_eq_getElem h2]

theorem read_sign (k : ℕ) (hk : k < 2 ^ 800) (H : Bls.P1) (hH : Valid Bls.p 0 4 H) :
    (match Bls.readE1 (Bls.signPoint k H) with | .ok P => some P | .error _ => none) =
      some (Curve.mul Bls.E1 k H) := by
  unfold Bls.signPoint
  rw [mul_E1 k hk H hH, Proofs.E1Codec.e1_roundtrip _ (codec_of_valid _ (valid_ofPoint ..))]

/-- **the driver's reconstruction oracle is correct on every share set of every polynomial**: for distinct signer
    abscissas `xs` (at most 255), a polynomial `Q` over `F_r` of degree below their number and a hash point `H` of the
    subgroup, `Driver.Threshold.interpolate` on the encoded shares `Q(x_i) • H` returns the encoding of `Q(0) • H` -/
theorem driver_interpolate_reconstructs (xs : List ℕ) (hb : ∀ x ∈ xs, x ≤ 255)
    (hinj : Set.InjOn (fun j => ((xs.getD j 0 : ℕ) : ZMod r)) (Finset.range xs.length))
    (Q : Polynomial (ZMod r)) (hdeg : Q.degree < xs.length) (H : Bls.P1) (hH : Valid Bls.p 0 4 H)
    (hG : Bls.inG1 H = true) :
    Driver.Threshold.interpolate ((List.range xs.length).map fun i =>
        (xs.getD i 0, Bls.signPoint (Q.eval ((xs.getD i 0 : ℕ) : ZMod r)).val H)) =
      some (Bls.signPoint (Q.eval 0).val H) := by
  unfold Driver.Threshold.interpolate
  generalize Curve.mul Bls.E1 1 Bls.g1 = poison
  rw [Proofs.BlsLaws.mapM_map
    (fun i => (xs.getD i 0, Bls.signPoint (Q.eval ((xs.getD i 0 : ℕ) : ZMod r)).val H)) _
    (fun i => Curve.mul Bls.E1 (Q.eval ((xs.getD i 0 : ℕ) : ZMod r)).val H) (List.range xs.length)
    (fun i _ => read_sign _ (Bls.val_bits _) H hH)]
  simp only [Option.bind_eq_bind, Option.bind_some, Option.pure_def, List.map_map, List.length_map, List.length_range]
  have hx : (List.range xs.length).map ((fun p : ℕ × Bytes => p.1) ∘ fun i =>
      (xs.getD i 0, Bls.signPoint (Q.eval ((xs.getD i 0 : ℕ) : ZMod r)).val H)) = xs := range_map_getD xs
  rw [hx]
  unfold Bls.signPoint
  apply congrArg (fun P => some (Bls.writeE1 P))
  rw [← Props.C06Model.model_threshold_reconstruction xs hb hinj Q hdeg H hH hG]
  apply congrArg (Curve.sum Bls.E1)
  apply List.map_congr_left
  intro i hi
  have hi' : i < xs.length := List.mem_range.1 hi
  rw [coeffSpec_eq_impl xs hb i]
  rw [if_pos (beq_self_eq_true _)]
  have hg : ((List.range xs.length).map fun i =>
      Curve.mul Bls.E1 (Q.eval ((xs.getD i 0 : ℕ) : ZMod r)).val H).getD i none =
      Curve.mul Bls.E1 (Q.eval ((xs.getD i 0 : ℕ) : ZMod r)).val H := by
    simp [List.getD, hi']
  rw [hg]
  unfold Driver.Threshold.coeffImpl Driver.Threshold.r
  exact Eq.refl _

theorem inj_of_nodup (xs : List ℕ) (hb : ∀ x ∈ xs, x ≤ 255) (hnd : xs.Nodup) :
    Set.InjOn (fun j => ((xs.getD j 0 : ℕ) : ZMod r)) (Finset.range xs.length) := by
  intro a ha b hb' hab
  have ha' : a < xs.length := by simpa using ha
  have hb'' : b < xs.length := by simpa using hb'
  simp only [List.getD, List.getElem?_eq_getElem ha', List.getElem?_eq_getElem hb'', Option.getD_some] at hab
  have h1 : xs[a] < r := lt_of_le_of_lt (hb _ (List.getElem_mem ha')) Bls.r_gt
  have h2 : xs[b] < r := lt_of_le_of_lt (hb _ (List.getElem_mem hb'')) Bls.r_gt
  have := congrArg ZMod.val hab
  rw [ZMod.val_natCast, ZMod.val_natCast, Nat.mod_eq_of_lt h1, Nat.mod_eq_of_lt h2] at this
  exact (List.Nodup.getElem_inj_iff hnd).1 this

/-- the same with the hypothesis the implementation enforces (no duplicated signer) -/
theorem driver_interpolate_reconstructs_nodup (xs : List ℕ) (hb : ∀ x ∈ xs, x ≤ 255) (hnd : xs.Nodup)
    (Q : Polynomial (ZMod r)) (hdeg : Q.degree < xs.length) (H : Bls.P1) (hH : Valid Bls.p 0 4 H)
    (hG : Bls.inG1 H = true) :
    Driver.Threshold.interpolate ((List.range xs.length).map fun i =>
        (xs.getD i 0, Bls.signPoint (Q.eval ((xs.getD i 0 : ℕ) : ZMod r)).val H)) =
      some (Bls.signPoint (Q.eval 0).val H) :=
  driver_interpolate_reconstructs xs hb (inj_of_nodup xs hb hnd) Q hdeg H hH hG

/-- the hypotheses are met: signers 1, 2, 3, the polynomial `X^2 + 7`, the generator of `G1` -/
example : (∀ x ∈ [1, 2, 3], x ≤ 255) ∧ [1, 2, 3].Nodup ∧ Valid Bls.p 0 4 Bls.g1 ∧ Bls.inG1 Bls.g1 = true ∧
    ((Polynomial.X ^ 2 + Polynomial.C 7 : Polynomial (ZMod r)).degree < ([1, 2, 3] : List ℕ).length) := by
  refine ⟨by decide, by decide, bls_g1_valid, congrArg Option.isNone Proofs.Generators.mul_r_g1, ?_⟩
  have : (Polynomial.X ^ 2 + Polynomial.C 7 : Polynomial (ZMod r)).degree ≤ 2 := by
    compute_degree
  exact lt_of_le_of_lt this (by norm_num)

/-! ### the duplicate-signer test of the oracle (seeded change C06-l: a bitmap that confuses signers 64 apart) -/

section dup
open Driver.Threshold

/-- **distinct signers are never reported as duplicates** (and a repeated signer always is, unless an earlier entry
    is refused first): on a list of well-formed entries with pairwise distinct signers in range, the per-entry loop of
    the reconstruction oracle raises nothing, whatever the group size and the positions of the signers -/
theorem loop_none_of_nodup (n t : Int) : ∀ (pairs : List (Int × Bytes)) (i : Nat) (seen : List Int),
    (∀ p ∈ pairs, p.2.length = 48 ∧ 0 ≤ p.1 ∧ p.1 < n) → (pairs.map (·.1)).Nodup →
    (∀ p ∈ pairs, p.1 ∉ seen) → reconstruct.loop n t i seen pairs = none := by
  intro pairs
  induction pairs with
  | nil => intro i seen _ _ _; simp [reconstruct.loop]
  | cons p rest ih =>
    intro i seen hw hnd hs
    obtain ⟨s, b⟩ := p
    have hp := hw (s, b) (by simp)
    simp only [List.map_cons, List.nodup_cons] at hnd
    unfold reconstruct.loop
    rw [if_neg (by simp [hp.1]), if_neg (by omega), if_neg (by simpa using hs (s, b) (by simp))]
    apply ih
    · intro q hq; exact hw q (List.mem_cons_of_mem _ hq)
    · exact hnd.2
    · intro q hq hmem
      rcases List.mem_cons.mp hmem with h | h
      · exact hnd.1 (h ▸ List.mem_map_of_mem hq)
      · exact hs q (List.mem_cons_of_mem _ hq) h

/-- a signer that occurs twice among well-formed entries is reported as a duplicate -/
theorem loop_dup (n t : Int) (i : Nat) (seen : List Int) (s : Int) (b : Bytes) (rest : List (Int × Bytes))
    (hb : b.length = 48) (hr : 0 ≤ s ∧ s < n) (hs : s ∈ seen) :
    reconstruct.loop n t i seen ((s, b) :: rest) = some "err DuplicatedSigner" := by
  unfold reconstruct.loop
  rw [if_neg (by simp [hb]), if_neg (by omega), if_pos (by simpa using hs)]

end dup

end Props.C06Driver

#print axioms Props.C06Driver.driver_interpolate_reconstructs_nodup
#print axioms Props.C06Driver.driver_interpolate_reconstructs
#print axioms Props.C06Driver.loop_none_of_nodup
#print axioms Props.C06Driver.loop_dup
