import Model.Sponge
import Proofs.Sponge
import Model.Hash
import Extracted.Consts
import Proofs.KmacEnc
import Proofs.SpongeFips

/-! # C13 — hashers and KMAC128 equal their standards for all inputs and chunkings

Part 1: the Go sponge (`hash/keccak.go`) for an arbitrary block-absorption function, any rate > 0,
any domain byte: every split of the input into `Write` calls gives the reference digest. -/

namespace Props.C13
open Model Model.Sponge

variable {St : Type}

theorem sum_of_repr (P : Params St) (hr : 0 < P.rate) (s : State St) (m : Bytes)
    (hn : s.isNil = true → s.buf = []) (h : Absorbs P.absorb P.rate P.zero m s.a s.buf) :
    sum P s = refHash P m := by
  have := h.eq_absorbAll hr (m.length + 1) (by omega)
  unfold sum padAndPermute refHash
  rw [this]
  cases hs : s.isNil <;> simp [hn, hs]

/-- **All splits**: `Reset`, then any sequence of `Write` calls, then `SumHash` gives the digest of the
    concatenation (no bound on the number or sizes of the chunks). -/
theorem write_chunks (P : Params St) (hr : 0 < P.rate) (s : State St) (chunks : List Bytes) :
    sum P (chunks.foldl (write P) (reset P s)) = refHash P chunks.flatten := by
  have h0 : Absorbs P.absorb P.rate P.zero [] (reset P s).a (reset P s).buf :=
    Absorbs.done _ _ (by simpa [reset] using hr)
  have := writes_repr P hr P.zero chunks (reset P s) [] rfl h0
  exact sum_of_repr P hr _ _ (by simp [this.2]) (by simpa using this.1)

/-- `ComputeHash(x)` does not depend on anything written to the hasher before. -/
theorem computeHash_fresh (P : Params St) (hr : 0 < P.rate) (s : State St) (x : Bytes) :
    computeHash P s x = refHash P x := by
  have := write_chunks P hr s [x]
  simpa [computeHash] using this

/-- a hasher that was never reset behaves as a reset one (the `bufNilValue` sentinel) -/
theorem never_reset_ok (P : Params St) (hr : 0 < P.rate) (chunks : List Bytes) :
    sum P (chunks.foldl (write P) (new P)) = refHash P chunks.flatten := by
  cases chunks with
  | nil => exact sum_of_repr P hr (new P) [] (fun _ => rfl) (Absorbs.done _ _ (by simpa [new] using hr))
  | cons c cs =>
    have hw : write P (new P) c = write P (reset P (new P)) c := by
      simp [write, new, reset]
    have := write_chunks P hr (new P) (c :: cs)
    simpa [hw] using this

/-- the one-shot helpers (`ComputeSHA3_256`, …: `write` on a fresh state, `padAndPermute`, `copyOut`) agree -/
theorem oneShot_eq (P : Params St) (hr : 0 < P.rate) (x : Bytes) :
    sum P (write P (new P) x) = refHash P x := by
  have := never_reset_ok P hr [x]
  simpa using this

/-! ## Part 2: the concrete hashers -/

open Model.Hash in
/-- the three sponge hashers of the package: any split of the input gives `refHash` on the Keccak parameters -/
theorem sha3_write_chunks (a : Hash.Algo) (P : Sponge.Params KeccakF.State) (h : Hash.spongeOf a = some P)
    (s : Sponge.State KeccakF.State) (chunks : List Bytes) :
    Sponge.sum P (chunks.foldl (Sponge.write P) (Sponge.reset P s)) = Sponge.refHash P chunks.flatten := by
  have hr : 0 < P.rate := by
    cases a <;> simp [Hash.spongeOf, Hash.keccakParams] at h <;> subst h <;> decide
  exact write_chunks P hr s chunks

/-- the reference digest of these theorems is FIPS 202's sponge - pad the whole message with the domain suffix and
    `pad10*1`, absorb every block of the padded message, squeeze - for every rate > 0, domain byte, message and
    output length up to the rate -/
theorem refHash_is_fips202 (rate : Nat) (hr : 0 < rate) (ds : UInt8) (outLen : Nat) (ho : outLen ≤ rate) (m : Bytes) :
    Sponge.refHash (Hash.keccakParams rate ds outLen) m = KeccakF.spongeRef rate ds outLen m :=
  Proofs.SpongeFips.refHash_eq_spongeRef rate hr ds outLen ho m

open Model.Hash in
/-- **SHA3-256, SHA3-384 and Keccak-256 of the package are the standard's functions for every input and every way
    of cutting it into `Write` calls**: `Reset`, any sequence of `Write`s, `SumHash` returns `Hash.digest` (FIPS 202
    pad-then-absorb over `keccakF1600`) of the concatenation -/
theorem sha3_hashers_equal_standard (a : Hash.Algo) (P : Sponge.Params KeccakF.State) (h : Hash.spongeOf a = some P)
    (s : Sponge.State KeccakF.State) (chunks : List Bytes) :
    Sponge.sum P (chunks.foldl (Sponge.write P) (Sponge.reset P s)) = Hash.digest a chunks.flatten := by
  rw [sha3_write_chunks a P h s chunks]
  cases a <;> simp [Hash.spongeOf] at h <;> subst h
  · exact refHash_is_fips202 136 (by decide) 0x06 32 (by decide) _
  · exact refHash_is_fips202 104 (by decide) 0x06 48 (by decide) _
  · exact refHash_is_fips202 136 (by decide) 0x01 32 (by decide) _

/-- parameters of the code as it is now: rates, domain bytes, output lengths -/
theorem tie_params :
    Extracted.Consts.hash_rateSHA3_256 = 136 ∧ Extracted.Consts.hash_rateSHA3_384 = 104 ∧
    Extracted.Consts.hash_rateKeccak_256 = 136 ∧ Extracted.Consts.hash_dsByteSHA3 = 6 ∧
    Extracted.Consts.hash_dsByteKeccak = 1 ∧ Extracted.Consts.hash_HashLenSHA3_256 = 32 ∧
    Extracted.Consts.hash_HashLenSHA3_384 = 48 ∧ Extracted.Consts.hash_HashLenKeccak_256 = 32 ∧
    Extracted.Consts.hash_cSHAKE128BlockSize = 168 ∧ Extracted.Consts.hash_KmacMinKeyLen = 16 ∧
    Extracted.Consts.hash_HashLenSHA2_256 = 32 ∧ Extracted.Consts.hash_HashLenSHA2_384 = 48 := by decide

/-- the pad length `bytepad` computes (expression regenerated from hash/kmac.go) is the one of SP 800-185:
    the fewest zero bytes reaching a multiple of `w` -/
theorem padlen_spec (len w : Nat) (hw : 0 < w) : KmacEnc.Code.padlen len w = (w - len % w) % w := by
  unfold KmacEnc.Code.padlen Extracted.Guards.hash_bytepad_padlen
  have h1 : Int.tmod (len : Int) (w : Int) = ((len % w : Nat) : Int) := by
    rw [Int.tmod_eq_emod_of_nonneg (by omega)]; simp
  have hlt : len % w < w := Nat.mod_lt _ hw
  rw [h1]
  have h2 : ((w : Int) - ((len % w : Nat) : Int)) = ((w - len % w : Nat) : Int) := by omega
  rw [h2, Int.tmod_eq_emod_of_nonneg (by omega)]
  norm_cast

theorem pad_aligned (n w : Nat) (hw : 0 < w) : (n + (w - n % w) % w) % w = 0 := by
  have hlt := Nat.mod_lt n hw
  by_cases h0 : n % w = 0
  · simp [h0]
  · rw [Nat.mod_eq_of_lt (by omega : w - n % w < w),
      show n + (w - n % w) = w * (n / w + 1) by rw [Nat.mul_add, Nat.mul_one]; have := Nat.div_add_mod n w; omega]
    exact Nat.mul_mod_right _ _

/-- `bytepad` output is block aligned and minimal -/
theorem bytepad_aligned_minimal (x : Bytes) (w : Nat) (hw : 0 < w) :
    (KmacEnc.Code.bytepad x w).length % w = 0 ∧
    (KmacEnc.Code.bytepad x w).length < (KmacEnc.Code.leftEncode w ++ x).length + w ∧
    (KmacEnc.Code.bytepad x w).take (KmacEnc.Code.leftEncode w ++ x).length = KmacEnc.Code.leftEncode w ++ x := by
  unfold KmacEnc.Code.bytepad KmacEnc.Code.bytepadWith
  simp only [List.length_append, zeros, List.length_replicate, padlen_spec _ w hw]
  exact ⟨pad_aligned _ w hw, Nat.add_lt_add_left (Nat.mod_lt _ hw) _, by rw [← List.length_append, List.take_left]⟩

/-- **`left_encode` and `right_encode` of the code equal SP 800-185 for every 64-bit value** -/
theorem encoders_spec (v : Nat) (hv : v < 2 ^ 64) :
    KmacEnc.Code.leftEncode v = KmacEnc.Spec.leftEncode v ∧ KmacEnc.Code.rightEncode v = KmacEnc.Spec.rightEncode v :=
  ⟨KmacEnc.leftEncode_spec v hv, KmacEnc.rightEncode_spec v hv⟩

/-- `encode_string` for every string whose bit length fits 64 bits -/
theorem encodeString_spec (s : Bytes) (hs : s.length * 8 < 2 ^ 64) :
    KmacEnc.Code.encodeString s = KmacEnc.Spec.encodeString s := by
  unfold KmacEnc.Code.encodeString KmacEnc.Spec.encodeString
  rw [Nat.mod_eq_of_lt hs, KmacEnc.leftEncode_spec _ hs]

/-- **`bytepad` of the code (with the pad length it computes now) is SP 800-185's** -/
theorem bytepad_spec (x : Bytes) (w : Nat) (hw : 0 < w) (hw64 : w < 2 ^ 64) :
    KmacEnc.Code.bytepad x w = KmacEnc.Spec.bytepad x w := by
  unfold KmacEnc.Code.bytepad KmacEnc.Code.bytepadWith KmacEnc.Spec.bytepad
  simp only [padlen_spec _ w hw, KmacEnc.leftEncode_spec w hw64]

/-- **KMAC128 of the code equals NIST SP 800-185 KMAC128** for every key, customizer, data and output size
    (x/crypto's cSHAKE128 being the standard function: correspondence) -/
theorem kmac_eq_spec (key cust : Bytes) (outputSize : Int) (k : Hash.Kmac.Obj)
    (hk : Hash.Kmac.new? key cust outputSize = some k) (hkey : key.length * 8 < 2 ^ 64)
    (hout : outputSize.toNat * 8 < 2 ^ 64) (data : Bytes) :
    k.computeHash data = Hash.Kmac.spec key cust data outputSize.toNat := by
  unfold Hash.Kmac.new? at hk
  split at hk; · cases hk
  split at hk; · cases hk
  cases hk
  unfold Hash.Kmac.Obj.computeHash Hash.Kmac.spec
  simp only
  rw [Nat.mod_eq_of_lt hout, KmacEnc.rightEncode_spec _ hout, encodeString_spec key hkey,
    bytepad_spec _ _ (by decide) (by decide)]

/-- constructor guards of `NewKMAC_128` -/
theorem kmac_guard (key cust : Bytes) (outputSize : Int) :
    (Hash.Kmac.new? key cust outputSize).isSome ↔ 0 ≤ outputSize ∧ 16 ≤ key.length := by
  unfold Hash.Kmac.new? Hash.Kmac.minKeyLen
  split
  · simp; omega
  · split
    · simp; omega
    · simp; omega

theorem tie_kmac_guards (outputSize len_key : Int) :
    Extracted.Guards.hash_NewKMAC_128_g0 outputSize = decide (outputSize < 0) ∧
    Extracted.Guards.hash_NewKMAC_128_g1 len_key = decide (len_key < 16) := ⟨rfl, rfl⟩

/-- `SumHash` and `ComputeHash` of KMAC leave the object unchanged, so writing afterwards continues the stream -/
theorem kmac_sum_then_write (k : Hash.Kmac.Obj) (p q : Bytes) :
    ((k.write p).write q).sumHash = (k.write (p ++ q)).sumHash := by
  simp [Hash.Kmac.Obj.write, Hash.Kmac.Obj.sumHash, List.append_assoc]

/-- `ComputeHash(x)` = `Reset; Write(x); SumHash` on a clone -/
theorem kmac_computeHash_eq (k : Hash.Kmac.Obj) (x : Bytes) :
    k.computeHash x = (k.reset.write x).sumHash := by
  simp [Hash.Kmac.Obj.computeHash, Hash.Kmac.Obj.write, Hash.Kmac.Obj.reset, Hash.Kmac.Obj.sumHash]

/-! known-answer vectors checked by the kernel on the concrete functions -/

theorem kat_sha3_256_empty : Hash.digest .sha3_256 [] =
    [0xa7,0xff,0xc6,0xf8,0xbf,0x1e,0xd7,0x66,0x51,0xc1,0x47,0x56,0xa0,0x61,0xd6,0x62,
     0xf5,0x80,0xff,0x4d,0xe4,0x3b,0x49,0xfa,0x82,0xd8,0x0a,0x4b,0x80,0xf8,0x43,0x4a] := by decide +kernel

theorem kat_refHash_sha3_256_empty : Sponge.refHash (Hash.keccakParams 136 0x06 32) [] =
    [0xa7,0xff,0xc6,0xf8,0xbf,0x1e,0xd7,0x66,0x51,0xc1,0x47,0x56,0xa0,0x61,0xd6,0x62,
     0xf5,0x80,0xff,0x4d,0xe4,0x3b,0x49,0xfa,0x82,0xd8,0x0a,0x4b,0x80,0xf8,0x43,0x4a] :=
  (refHash_is_fips202 136 (by decide) 0x06 32 (by decide) []).trans kat_sha3_256_empty

theorem kat_sha2_256_abc : Hash.digest .sha2_256 [0x61, 0x62, 0x63] =
    [0xba,0x78,0x16,0xbf,0x8f,0x01,0xcf,0xea,0x41,0x41,0x40,0xde,0x5d,0xae,0x22,0x23,
     0xb0,0x03,0x61,0xa3,0x96,0x17,0x7a,0x9c,0xb4,0x10,0xff,0x61,0xf2,0x00,0x15,0xad] := by decide +kernel

theorem kat_encoders : KmacEnc.Code.leftEncode 0 = [1, 0] ∧ KmacEnc.Code.leftEncode 168 = [1, 168] ∧
    KmacEnc.Code.leftEncode 256 = [2, 1, 0] ∧ KmacEnc.Code.rightEncode 0 = [0, 1] ∧
    KmacEnc.Code.rightEncode 1024 = [4, 0, 2] ∧ KmacEnc.Spec.leftEncode 256 = [2, 1, 0] ∧
    KmacEnc.Spec.rightEncode 1024 = [4, 0, 2] ∧
    KmacEnc.Code.leftEncode (2 ^ 64 - 1) = KmacEnc.Spec.leftEncode (2 ^ 64 - 1) := by decide +kernel

end Props.C13

#print axioms Props.C13.write_chunks
#print axioms Props.C13.computeHash_fresh
#print axioms Props.C13.never_reset_ok
#print axioms Props.C13.oneShot_eq
#print axioms Props.C13.sha3_write_chunks
#print axioms Props.C13.refHash_is_fips202
#print axioms Props.C13.sha3_hashers_equal_standard
#print axioms Props.C13.tie_params
#print axioms Props.C13.padlen_spec
#print axioms Props.C13.bytepad_aligned_minimal
#print axioms Props.C13.encoders_spec
#print axioms Props.C13.encodeString_spec
#print axioms Props.C13.bytepad_spec
#print axioms Props.C13.kmac_eq_spec
#print axioms Props.C13.kmac_guard
#print axioms Props.C13.tie_kmac_guards
#print axioms Props.C13.kmac_sum_then_write
#print axioms Props.C13.kmac_computeHash_eq
#print axioms Props.C13.kat_sha3_256_empty
#print axioms Props.C13.kat_refHash_sha3_256_empty
#print axioms Props.C13.kat_sha2_256_abc
#print axioms Props.C13.kat_encoders
