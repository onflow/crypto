import Proofs.BlsFeldman

/-! # C04 / C12 (executable model, `E2`) — public keys: the arithmetic of `E2` in the model is the group of the curve
over `F_p²` (Mathlib), so the BLS public key of the model is `sk • g2`, aggregation of public keys is the group sum,
and the public key of the aggregated private key is the aggregate of the public keys -/

namespace Props.E2Model
open Model Model.Curve Proofs.CurveGroup2 Proofs.CurveInst2

noncomputable abbrev pt2 (P : Bls.P2) : (W Bls.p (0, 0) (4, 4)).Point := toPoint Bls.p (0, 0) (4, 4) P

/-- **the BLS public key of the model is `sk • g2`** in the group of points of `E2` over `F_p²`, and a canonical point -/
theorem bls_public_key_is_scalar_mul (sk : ℕ) (h : sk < 2 ^ 800) :
    Valid Bls.p (0, 0) (4, 4) (Bls.publicKeyOf sk) ∧ pt2 (Bls.publicKeyOf sk) = sk • pt2 Bls.g2 :=
  mul_eq Bls.p (0, 0) (4, 4) bls2_Δ Proofs.E1Codec.p_two Proofs.E1Codec.p_bits sk h Bls.g2 bls_g2_valid

/-- aggregation of public keys in the model is the sum in the group, hence independent of the order -/
theorem model_pk_sum_is_group_sum (ps : List Bls.P2) (h : ∀ P ∈ ps, Valid Bls.p (0, 0) (4, 4) P) :
    pt2 (Curve.sum Bls.E2 ps) = (ps.map pt2).sum :=
  (sum_eq Bls.p (0, 0) (4, 4) bls2_Δ Proofs.E1Codec.p_two Proofs.E1Codec.p_bits ps h).2

theorem model_pk_sum_order_independent (ps qs : List Bls.P2) (h : ∀ P ∈ ps, Valid Bls.p (0, 0) (4, 4) P)
    (hperm : ps.Perm qs) : Curve.sum Bls.E2 ps = Curve.sum Bls.E2 qs :=
  sum_perm Bls.p (0, 0) (4, 4) bls2_Δ Proofs.E1Codec.p_two Proofs.E1Codec.p_bits ps qs h hperm

/-- **the public key of the aggregated private key is the aggregate of the public keys, in the executable model** -/
theorem model_pk_of_aggregated_key (k1 k2 : ℕ) (h1 : k1 < Bls.r) (h2 : k2 < Bls.r) :
    Bls.publicKeyOf ((k1 + k2) % Bls.r) = Curve.sum Bls.E2 [Bls.publicKeyOf k1, Bls.publicKeyOf k2] := by
  unfold Bls.publicKeyOf
  rw [mul_g2 k1 (h1.trans Bls.r_bits), mul_g2 k2 (h2.trans Bls.r_bits),
    mul_g2 _ ((Nat.mod_lt _ Bls.r_pos).trans Bls.r_bits),
    sum_E2 [_, _] (fun P hP => by rcases List.mem_pair.1 hP with rfl | rfl <;> exact valid_ofPoint ..)]
  simp only [List.map_cons, List.map_nil, List.sum_cons, List.sum_nil, add_zero, toPoint_ofPoint, ← add_smul]
  exact congrArg _ (nsmul_congr_mod Proofs.BlsFeldman.rG (Nat.mod_mod _ _))

end Props.E2Model

#print axioms Props.E2Model.bls_public_key_is_scalar_mul
#print axioms Props.E2Model.model_pk_sum_is_group_sum
#print axioms Props.E2Model.model_pk_sum_order_independent
#print axioms Props.E2Model.model_pk_of_aggregated_key
