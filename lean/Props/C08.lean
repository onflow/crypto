import Model.Dkg
import Proofs.DkgHandlers
import Proofs.DkgOnce
import Proofs.DkgHonest
import Proofs.DkgBlame
import Proofs.DkgJointAgree
import Proofs.DkgDealerBlame

/-! # C08 — DKG qualification is fair: honest never blamed, bad dealing never accepted

Theorems over the state-machine models (every crypto-operations record, every state, every message). -/

namespace Props.C08
open Model Model.Dkg

variable {O : Ops}

def blameOK (allowed : List Nat) : Out → Bool
  | .disq i => allowed.contains i
  | .flag i => allowed.contains i
  | _ => true

/-- every Disqualify / FlagMisbehavior callback in `outs` targets a participant of `allowed` -/
def BlameIn (allowed : List Nat) (outs : List Out) : Prop := outs.all (blameOK allowed) = true

theorem BlameIn.append {a : List Nat} {o1 o2 : List Out} (h1 : BlameIn a o1) (h2 : BlameIn a o2) :
    BlameIn a (o1 ++ o2) := by
  unfold BlameIn at *; simp [List.all_append, h1, h2]

open Proofs.DkgCommute Proofs.DkgAgree in
/-- the complaint flags the dealer; everything after it targets the sender or the dealer -/
theorem blameIn_of_emits {s : St O} {o : Nat} {r : St O × List Out} (h : Emits s o r) : BlameIn [o, s.dealer] r.2 := by
  obtain ⟨tl, e, ht⟩ := h
  rw [e]
  refine BlameIn.append ?_ ?_
  · split
    · simp [BlameIn, cpair, blameOK]
    · rfl
  · unfold BlameIn
    rw [List.all_eq_true]
    intro x hx
    rcases ht x hx with rfl | rfl | rfl | ⟨_, _, m, rfl⟩ <;> simp [blameOK]

open Proofs.DkgAgree in
/-- **whatever message arrives from `o`, an instance only ever blames `o` or its dealer** -/
theorem handlers_blame (s : St O) (o : Nat) (m : Bytes) :
    BlameIn [o, s.dealer] (FvssQ.bcastBody s o m).2 ∧ BlameIn [o, s.dealer] (FvssQ.privBody s o m).2 :=
  ⟨blameIn_of_emits (bcast_emits s o m), blameIn_of_emits (priv_emits s o m)⟩

open Proofs.DkgAgree in
/-- the timeouts and End only ever blame the dealer -/
theorem timeouts_blame (s : St O) :
    BlameIn [s.dealer, s.dealer] (FvssQ.timeoutBody s).2 ∧ BlameIn [s.dealer, s.dealer] (FvssQ.settle s).2 :=
  ⟨blameIn_of_emits (timeout_emits s), blameIn_of_emits (settle_emits s)⟩

/-- once disqualified, always disqualified -/
theorem disq_monotone (s : St O) (o : Nat) (m : Bytes) (h : s.disqualified = true) :
    (FvssQ.bcastBody s o m).1 = s ∧ (FvssQ.privBody s o m).1 = s ∧
    (FvssQ.timeoutBody s).1.disqualified = true ∧ (FvssQ.settle s).1.disqualified = true := by
  refine ⟨?_, ?_, ?_, ?_⟩
  · rw [FvssQ.bcastBody, if_pos h, ite_self]
  · rw [FvssQ.privBody, if_pos h, ite_self]
  · exact Proofs.DkgCommute.tstep_disq s h
  · unfold FvssQ.settle; simp [h]

/-- a disqualified dealer is never accepted: End fails -/
theorem disqualified_end_fails (s : St O) (h : s.disqualified = true) : (FvssQ.endBody s).2.2 = .failure := by
  show Proofs.DkgCommute.endRes s = _
  rw [Proofs.DkgCommute.endRes_eq, if_pos (Or.inl h)]

/-- a dealer that leaves a registered complaint unanswered is disqualified at End -/
theorem unanswered_complaint_fails (s : St O)
    (h : s.complaints.any (fun kc => kc.2.received && !kc.2.answerReceived) = true) :
    (FvssQ.endBody s).2.2 = .failure := by
  show Proofs.DkgCommute.endRes s = _
  rw [Proofs.DkgCommute.endRes_eq, if_pos (Or.inr h)]

/-- more than `t` complaint entries at the second timeout disqualify the dealer -/
theorem too_many_complaints_disqualify (s : St O) (h1 : s.disqualified = false) (h2 : s.sharesTimeout = true)
    (h : s.complaints.length > s.threshold) : (FvssQ.timeoutBody s).1.disqualified = true := by
  rw [Proofs.DkgCommute.timeout_pair, h1, h2, if_pos h]
  rfl

/-- a missing verification vector at the first timeout disqualifies the dealer -/
theorem missing_vector_disqualifies (s : St O) (h1 : s.disqualified = false) (h2 : s.sharesTimeout = false)
    (h : s.vAReceived = false) : (FvssQ.timeoutBody s).1.disqualified = true := by
  rw [Proofs.DkgCommute.timeout_pair, h1, h2, h]
  rfl

/-- a late verification vector or share is not processed (only flagged) -/
theorem late_messages_ignored (s : St O) (o : Nat) (d : Bytes) (h : s.sharesTimeout = true) (ho : o = s.dealer) :
    (FvssQ.receiveVerifVector s o d).1 = s ∧ (FvssQ.receiveShare s o d).1 = s := by
  unfold FvssQ.receiveVerifVector FvssQ.receiveShare
  simp [h, ho]

/-- a malformed verification vector (wrong size, or a point that is malformed / off-curve / outside G2)
    disqualifies the dealer at once -/
theorem malformed_vector_disqualifies (s : St O) (d : Bytes)
    (h1 : s.sharesTimeout = false) (h2 : s.vAReceived = false)
    (hbad : d.length ≠ verifVectorSize * (s.threshold + 1) ∨ O.readVec s.threshold s.size d = none) :
    (FvssQ.receiveVerifVector s s.dealer d).1.disqualified = true := by
  unfold FvssQ.receiveVerifVector
  simp only [ne_eq, not_true_eq_false, ↓reduceIte, h1, h2, Bool.false_eq_true]
  rcases hbad with h | h
  · simp [h]
  · by_cases hl : d.length ≠ verifVectorSize * (s.threshold + 1)
    · simp [hl]
    · simp [hl, h]

/-- invariant of a non-dealer Feldman VSS instance -/
def FvssInv (s : St O) : Prop :=
  s.validKey = true → s.vAReceived = true ∧ s.xReceived = true ∧ ∃ v, s.vA = some v ∧ O.checkLog v s.me s.x = true

theorem fvss_receiveShare_inv (s : St O) (o : Nat) (d : Bytes) (h : FvssInv s) :
    FvssInv (Fvss.receiveShare s o d).1 := by
  unfold Fvss.receiveShare
  by_cases h1 : o ≠ s.dealer
  · rw [if_pos h1]; exact h
  rw [if_neg h1]
  by_cases h2 : s.xReceived = true
  · rw [if_pos h2]; exact h
  rw [if_neg h2]
  simp only
  by_cases h3 : d.length = 0 ∨ d.headD 0 ≠ tagShare
  · rw [if_pos h3]; intro hv; simp at hv
  rw [if_neg h3]
  by_cases h4 : (d.drop 1).length ≠ shareSize
  · rw [if_pos h4]; intro hv; simp at hv
  rw [if_neg h4]
  cases hr : O.readScalar (d.drop 1) with
  | none => simp only; intro hv; simp at hv
  | some x =>
    simp only
    by_cases h5 : s.vAReceived = true ∧ s.vA.isSome = true
    · rw [if_pos h5]
      intro hv
      simp only at hv ⊢
      obtain ⟨h51, h52⟩ := h5
      cases hva : s.vA with
      | none => simp [hva] at h52
      | some v =>
        simp only [St.verifyShare, hva] at hv
        refine ⟨h51, ?_, v, ?_, hv⟩
        · trivial
        · first | exact hva | rfl
    · rw [if_neg h5]
      intro hv
      simp only at hv
      have := h hv
      exact absurd this.2.1 h2

theorem fvss_receiveVerifVector_inv (s : St O) (o : Nat) (d : Bytes) (h : FvssInv s) :
    FvssInv (Fvss.receiveVerifVector s o d).1 := by
  unfold Fvss.receiveVerifVector
  by_cases h1 : o ≠ s.dealer
  · rw [if_pos h1]; exact h
  rw [if_neg h1]
  by_cases h2 : s.vAReceived = true
  · rw [if_pos h2]; exact h
  rw [if_neg h2]
  by_cases h3 : verifVectorSize * (s.threshold + 1) ≠ d.length
  · rw [if_pos h3]; intro hv; simp at hv
  rw [if_neg h3]
  cases hr : O.readVec s.threshold s.size d with
  | none => simp only; intro hv; simp at hv
  | some v =>
    simp only
    by_cases h5 : s.xReceived = true
    · rw [if_pos h5]
      intro hv
      simp only [St.verifyShare] at hv
      exact ⟨rfl, h5, v, rfl, hv⟩
    · rw [if_neg h5]
      intro hv
      simp only at hv
      have := h hv
      exact absurd this.1 h2

/-- **plain Feldman VSS never returns keys unless a valid vector was received and the share matches it**:
    whenever `End` returns keys, the returned private share satisfies the share check against the stored
    vector and the returned public keys are those of that vector -/
theorem fvss_keys_sound (s : St O) (h : FvssInv s) (x : Nat) (Y : Bytes) (ys : List Bytes)
    (hk : (Fvss.end_ s).2.2 = .keys x Y ys) :
    ∃ v, s.vA = some v ∧ O.checkLog v s.me x = true ∧ Y = O.groupKey v ∧ ys = O.pubShares v ∧ x ≠ 0 := by
  unfold Fvss.end_ at hk
  split at hk
  · cases hk
  · simp only at hk
    unfold Fvss.endBody at hk
    split at hk; · cases hk
    rename_i hvk
    have hvk' : s.validKey = true := by simpa using hvk
    obtain ⟨_, _, v, hv, hc⟩ := h hvk'
    simp only [hv] at hk
    split at hk; · cases hk
    split at hk; · cases hk
    cases hk
    exact ⟨v, hv, hc, rfl, rfl, by assumption⟩

/-- the invariant holds initially and is preserved by every API call of a non-dealer instance -/
theorem fvss_inv_init (size t me dealer : Nat) :
    FvssInv ({ size := size, threshold := t, me := me, dealer := dealer } : St O) := by
  intro h; cases h

theorem fvss_step_inv (s : St O) (hnd : s.dealer ≠ s.me) (h : FvssInv s) (orig : Int) (m seed : Bytes) :
    FvssInv (Fvss.handleBroadcast s orig m).1 ∧ FvssInv (Fvss.handlePrivate s orig m).1 ∧
    FvssInv (Fvss.forceDisqualify s orig).1 ∧ FvssInv (Fvss.end_ s).1 ∧ FvssInv (start s seed).1 := by
  have hg (body : St O × List Out) (hb : FvssInv body.1) : FvssInv (guarded s orig body).1 := by
    rcases guarded_state s orig body with e | e <;> rw [e] <;> assumption
  refine ⟨hg (Fvss.bcastBody s orig.toNat m) ?_, hg (Fvss.privBody s orig.toNat m) ?_,
    hg ((if orig.toNat = s.dealer then { s with validKey := false } else s), []) ?_, ?_, ?_⟩
  · unfold Fvss.bcastBody
    split; · exact h
    split; · exact h
    split
    · exact fvss_receiveVerifVector_inv s _ _ h
    · exact h
  · unfold Fvss.privBody
    split
    · exact h
    · exact fvss_receiveShare_inv s _ _ h
  · show FvssInv (if _ then _ else _)
    split
    · intro hv; cases hv
    · exact h
  · unfold Fvss.end_
    split <;> exact h
  · unfold start startBody
    simp only [hnd, ↓reduceIte]
    split <;> exact h

open Proofs.DkgCommute in
/-- **an honest participant broadcasts its complaint at most once**, whatever it receives, in whatever order,
    across deliveries and timeouts (a second complaint makes every other honest participant flag it: the defect
    class F9) -/
theorem own_complaint_at_most_once (s : St O) (hme : s.me ≠ s.dealer) (evs : List Ev) :
    cnt (outputs s evs) ≤ 1 := (complaint_at_most_once s hme evs).1

open Proofs.DkgCommute in
/-- **share and verification vector in either order** (exactly the same state, or disqualified in both) -/
theorem share_vector_any_order (s : St O) (hme : s.me ≠ s.dealer) (hn : KeysNodup s) (vec sh : Bytes) :
    Rel (FvssQ.privBody (FvssQ.bcastBody s s.dealer (tagVerifVec :: vec)).1 s.dealer sh).1
        (FvssQ.bcastBody (FvssQ.privBody s s.dealer sh).1 s.dealer (tagVerifVec :: vec)).1 :=
  share_vector_commute s hme hn vec sh

open Proofs.DkgCommute in
/-- **a complaint and the dealer's answer to it in either order** (the defect class F10: an answer that arrives
    before the complaint is kept and checked) -/
theorem complaint_answer_any_order (s : St O) (k : Nat) (sc : Option Nat) (hk : k ≠ s.me)
    (hdq : s.disqualified = false) (hwf : EntriesWF s) :
    RelP (if (rcOk s k).disqualified then rcOk s k else raOk (rcOk s k) k sc)
         (if (raOk s k sc).disqualified then raOk s k sc else rcOk (raOk s k sc) k) :=
  complaint_answer_same s k sc hk hdq hwf

open Proofs.DkgCommute in
/-- **no honest dealer is ever disqualified, whatever the other participants do**: at a receiver whose share matches
    the dealer's vector, for every list of deliveries per round and every order, as long as every delivery is one
    an honest dealer or an arbitrary (Byzantine) other participant can cause — the dealer sends nothing but its
    vector, the receiver's share and valid answers; the others send anything — the vector and the share arrive in
    the first round, at most `t` participants ever complain or are answered, and each of them is answered before
    `End`: then `End` returns the receiver's share and the keys of the dealer's polynomial -/
theorem honest_dealer_never_disqualified (H : Honest O) (K : Finset Nat) (s0 : St O) (h0 : HD H s0)
    (hst0 : s0.sharesTimeout = false) (hct0 : s0.complaintsTimeout = false) (hK : K.card ≤ s0.threshold)
    (hk0 : keysIn K s0) (hx0 : H.x0 ≠ 0) (hid : O.groupKeyIsIdentity H.v0 = false) (r1 r2 r3 : List Dl)
    (ok1 : RoundOK' H K s0 false r1) (ok2 : RoundOK' H K s0 false r2) (ok3 : RoundOK' H K s0 true r3)
    (hvec : ∃ e ∈ r1, ∃ d, ∀ t, CfgCT s0 false t → classify t e = .vec d)
    (hshare : ∃ e ∈ r1, ∃ d, ∀ t, CfgCT s0 false t → classify t e = .share d)
    (hans : ∀ k ∈ K, ∃ a, (∃ e ∈ r1, ∀ t, CfgCT s0 false t → classify t e = .ans k (some a)) ∨
      (∃ e ∈ r2, ∀ t, CfgCT s0 false t → classify t e = .ans k (some a)) ∨
      (∃ e ∈ r3, ∀ t, CfgCT s0 true t → classify t e = .ans k (some a))) :
    exec s0 r1 r2 r3 = .keys H.x0 (O.groupKey H.v0) (O.pubShares H.v0) :=
  honest_dealer_keys H K s0 h0 hst0 hct0 hK hk0 hx0 hid r1 r2 r3 ok1 ok2 ok3 hvec hshare hans

open Proofs.DkgCommute in
/-- the state right after `Start` satisfies the hypotheses on the state -/
theorem honest_dealer_init (H : Honest O) (size threshold dealer : Nat) (hne : H.me ≠ dealer) (K : Finset Nat) :
    HD H ({ size := size, threshold := threshold, me := H.me, dealer := dealer, running := true } : St O) ∧
    keysIn K ({ size := size, threshold := threshold, me := H.me, dealer := dealer, running := true } : St O) :=
  ⟨hd_init H size threshold dealer hne, fun k c hc => by cases hc⟩

open Proofs.DkgCommute Proofs.DkgAgree in
/-- **honest never blamed**: in an execution of Feldman-VSS-Qual, no `Disqualify` / `FlagMisbehavior` callback of
    the honest participant `mb` (during the three rounds, at the two timeouts, at `End`) targets the honest
    participant `ma`, for every behaviour of the dealer and of the other participants, every private message and
    every delivery order at `ma` and at `mb`; the only assumption is that what `mb` receives from `ma` by broadcast
    in each round is what `ma`'s state machine broadcast in that round (reliable broadcast, round synchrony) -/
theorem honest_never_blamed_by_honest (size threshold dealer ma mb : Nat) (hmad : ma ≠ dealer) (hmbd : mb ≠ dealer)
    (hab : ma ≠ mb) (ra1 ra2 ra3 rb1 rb2 rb3 : List Dl)
    (n1 : stream rb1 (ma, false) = (bR1 (fresh O size threshold ma dealer) ra1).map (Dl.bcast ma))
    (n2 : stream rb2 (ma, false) = (bR2 (fresh O size threshold ma dealer) ra1 ra2).map (Dl.bcast ma))
    (n3 : stream rb3 (ma, false) = (bR3 (fresh O size threshold ma dealer) ra1 ra2 ra3).map (Dl.bcast ma)) :
    NoBlame ma (allOuts (fresh O size threshold mb dealer) rb1 rb2 rb3) :=
  honest_never_blamed size threshold dealer ma mb hmad hmbd hab ra1 ra2 ra3 rb1 rb2 rb3 n1 n2 n3

open Proofs.DkgCommute Proofs.DkgAgree in
/-- an honest participant other than the dealer broadcasts at most one message in a whole execution: its complaint,
    in the first round or at the first timeout; nothing in the third round -/
theorem honest_broadcasts_one_complaint (size threshold me dealer : Nat) (hne : me ≠ dealer) (r1 r2 r3 : List Dl) :
    bR3 (fresh O size threshold me dealer) r1 r2 r3 = [] ∧
    ((bR1 (fresh O size threshold me dealer) r1 = [] ∧ bR2 (fresh O size threshold me dealer) r1 r2 = []) ∨
     (bR1 (fresh O size threshold me dealer) r1 = [cmplMsg dealer] ∧ bR2 (fresh O size threshold me dealer) r1 r2 = []) ∨
     (bR1 (fresh O size threshold me dealer) r1 = [] ∧ bR2 (fresh O size threshold me dealer) r1 r2 = [cmplMsg dealer])) :=
  emission_once size threshold me dealer hne r1 r2 r3

open Proofs.DkgCommute Proofs.DkgAgree in
/-- whatever is delivered from `o`, nobody but `o` and the dealer is blamed; the one complaint of an honest
    participant, delivered once before the second timeout, blames nobody but possibly the dealer -/
theorem blame_targets (s : St O) (e : Dl) (A : Nat) (hA : A ≠ s.dealer) :
    (A ≠ e.sender → NoBlame A (stepOuts s e)) ∧
    (s.me ≠ s.dealer → s.complaintsTimeout = false → recvAt s A = false → NoBlame A (stepOuts s (zCmpl A s.dealer))) :=
  ⟨step_noblame_other s e A hA, fun hme hct hr => step_noblame_complaint s A hA hme hct hr⟩

open Proofs.DkgCommute Proofs.DkgAgree in
/-- **inside Joint-Feldman** every broadcast reaches all `n` instances: the instance of dealer `d` at an honest
    participant also sees the other broadcasts of an honest participant `A` (its vector, its answers, its complaints
    against other dealers). They draw no blame and change nothing (`irrelevant_honest_noblame`, `irrelevant_noop`), so a
    round of the instance never blames `A`, under the same hypothesis on `A`'s complaints against `d` as in the
    single-instance theorem -/
theorem joint_round_never_blames_honest (s : St O) (inv : Inv s) (A : Nat) (hA : A ≠ s.dealer) (hAme : A ≠ s.me)
    (hd : s.dealer < 256) (l : List Dl) (hon : HonestFrom A s.size s.complaintsTimeout l)
    (hl : stream (relevantOnly A s.dealer l) (A, false) = [] ∨
      (stream (relevantOnly A s.dealer l) (A, false) = [zCmpl A s.dealer] ∧ recvAt s A = false ∧ s.complaintsTimeout = false)) :
    NoBlame A (runOuts s l) := run_noblame_joint s inv A hA hAme hd l hon hl

open Proofs.DkgCommute Proofs.DkgAgree in
/-- **an honest dealer is never blamed by an honest receiver** (the instances whose dealer is itself honest): over
    the three rounds, both timeouts and `End` of a Feldman-VSS-Qual instance - also as one of the `n` instances of
    Joint-Feldman -, no `Disqualify` and no `FlagMisbehavior` callback of the receiver targets the dealer, whatever
    the other participants broadcast or send and in whatever order, given what an honest dealer and a reliable
    network provide: deliveries compatible with an honest dealer (`RoundOK'`), the vector and the receiver's share in
    the first round, at most `t` complainers (`K`), each answered, no message of the dealer delivered twice (`Once`),
    neither vector nor share after the first round (`NoVS`), and no complaint-tagged broadcast of the dealer after
    the second timeout (`DealerQuiet`). -/
theorem honest_dealer_never_blamed_by_honest (H : Honest O) (K : Finset Nat) (s0 : St O) (h0 : HD H s0)
    (hst0 : s0.sharesTimeout = false) (hct0 : s0.complaintsTimeout = false) (hK : K.card ≤ s0.threshold)
    (hk0 : keysIn K s0) (hv0 : s0.vAReceived = false) (hx0 : s0.xReceived = false) (hc0 : s0.complaints = [])
    (r1 r2 r3 : List Dl)
    (ok1 : RoundOK' H K s0 false r1) (ok2 : RoundOK' H K s0 false r2) (ok3 : RoundOK' H K s0 true r3)
    (hvec : ∃ e ∈ r1, ∃ d, ∀ t, CfgCT s0 false t → classify t e = .vec d)
    (hshare : ∃ e ∈ r1, ∃ d, ∀ t, CfgCT s0 false t → classify t e = .share d)
    (hans : ∀ k ∈ K, ∃ a, (∃ e ∈ r1, ∀ t, CfgCT s0 false t → classify t e = .ans k (some a)) ∨
      (∃ e ∈ r2, ∀ t, CfgCT s0 false t → classify t e = .ans k (some a)) ∨
      (∃ e ∈ r3, ∀ t, CfgCT s0 true t → classify t e = .ans k (some a)))
    (once : Once s0 (r1 ++ (r2 ++ r3))) (novs2 : NoVS s0 r2) (novs3 : NoVS s0 r3)
    (quiet3 : ∀ e ∈ r3, ∀ t, CfgCT s0 true t → DealerQuiet t e) :
    NoBlame s0.dealer (allOuts s0 r1 r2 r3) :=
  honest_dealer_never_blamed H K s0 h0 hst0 hct0 hK hk0 hv0 hx0 hc0 r1 r2 r3 ok1 ok2 ok3 hvec hshare hans once
    novs2 novs3 quiet3

open Proofs.DkgCommute Proofs.DkgAgree in
/-- the step behind it: one allowed, first-time, in-time delivery never blames the dealer -/
theorem delivery_never_blames_honest_dealer {H : Honest O} {s : St O} (h : HD H s) (e : Dl)
    (ha : AllowedK H s (classify s e)) (hf : FreshFor s (classify s e)) (hq : DealerQuiet s e) :
    NoBlame s.dealer (stepOuts s e) := step_noblame_dealer h e ha hf hq

section NonVacuity
open Proofs.DkgCommute

/-- a trivial crypto record: every vector of the right length parses, every share is valid -/
def triv : Ops where
  Vec := Unit
  readVec := fun _ _ _ => some ()
  checkLog := fun _ _ _ => true
  readScalar := fun _ => some 1
  writeScalar := fun _ => []
  addScalar := fun a b => a + b
  groupKey := fun _ => []
  pubShares := fun _ => []
  groupKeyIsIdentity := fun _ => false
  sumVecs := fun _ => none
  genPoly := fun _ _ => none
  polyEval := fun _ _ => 0
  vecBytes := fun _ => []
  vecOfPoly := fun _ _ => ()

def vb : Bytes := List.replicate (96 * 2) 0
def sb : Bytes := tagShare :: List.replicate 32 0

def Htriv : Honest triv := { v0 := (), vb := vb, x0 := 1, sb := sb, me := 1, shareOk := rfl }

def s0 : St triv := { size := 3, threshold := 1, me := 1, dealer := 0, running := true }

/-- non-vacuity: the dealer's vector and share delivered in round one, nobody complains -/
example : exec s0 [.bcast 0 (tagVerifVec :: vb), .priv 0 sb] [] [] = .keys 1 [] [] := by
  have hcl1 : ∀ t : St triv, CfgCT s0 false t → classify t (.bcast 0 (tagVerifVec :: vb)) = .vec vb := by
    intro t ⟨h1, h2, _, _, _⟩
    exact Proofs.DkgCommute.classify_vec t 0 h2.symm (by rw [h1]; decide) vb
  have hcl2 : ∀ t : St triv, CfgCT s0 false t → classify t (.priv 0 sb) = .share sb := by
    intro t ⟨h1, h2, _, _, _⟩
    exact Proofs.DkgCommute.classify_share t 0 h2.symm (by rw [h1]; decide) sb
  refine honest_dealer_never_disqualified Htriv ∅ s0 (hd_init Htriv 3 1 0 (by decide)) rfl rfl (by simp)
    (fun k c hc => by cases hc) (by decide) rfl _ _ _ ?_ ?_ ?_ ⟨_, by simp, vb, hcl1⟩ ⟨_, List.mem_cons_of_mem _ (by simp), sb, hcl2⟩
    (fun k hk => by simp at hk)
  · intro e he t ht
    simp only [List.mem_cons, List.not_mem_nil, or_false] at he
    rcases he with rfl | rfl
    · rw [hcl1 t ht]
      refine ⟨⟨rfl, ?_⟩, trivial, trivial⟩
      unfold parseVec
      have hth : t.threshold = 1 := ht.threshold
      have hlen : vb.length = verifVectorSize * (t.threshold + 1) := by
        rw [hth]; unfold vb verifVectorSize; rw [List.length_replicate]
      rw [if_neg (fun hne => hne hlen)]
      rfl
    · rw [hcl2 t ht]
      refine ⟨⟨rfl, ?_⟩, trivial, trivial⟩
      rfl
  · intro e he; cases he
  · intro e he; cases he

open Proofs.DkgAgree in
/-- non-vacuity of `honest_never_blamed_by_honest`: participant 1 gets no share, complains at the first timeout;
    participant 2 receives the complaint in the second round; the hypotheses hold, and participant 2 does output
    callbacks (it flags the dealer for a second vector and disqualifies it) - none of them targets participant 1 -/
example :
    stream [.bcast 0 (tagVerifVec :: vb), .priv 0 sb, .bcast 0 (tagVerifVec :: vb)] (1, false) =
      (bR1 (fresh triv 3 1 1 0) [.bcast 0 (tagVerifVec :: vb)]).map (Dl.bcast 1) ∧
    stream [Dl.bcast 1 (cmplMsg 0)] (1, false) = (bR2 (fresh triv 3 1 1 0) [.bcast 0 (tagVerifVec :: vb)] []).map (Dl.bcast 1) ∧
    stream [] (1, false) = (bR3 (fresh triv 3 1 1 0) [.bcast 0 (tagVerifVec :: vb)] [] []).map (Dl.bcast 1) ∧
    allOuts (fresh triv 3 1 2 0) [.bcast 0 (tagVerifVec :: vb), .priv 0 sb, .bcast 0 (tagVerifVec :: vb)]
      [Dl.bcast 1 (cmplMsg 0)] [] = [Out.flag 0, Out.disq 0] := by
  have e1 : bR1 (fresh triv 3 1 1 0) [.bcast 0 (tagVerifVec :: vb)] = [] := by decide +kernel
  have e2 : bR2 (fresh triv 3 1 1 0) [.bcast 0 (tagVerifVec :: vb)] [] = [cmplMsg 0] := by decide +kernel
  have e3 : bR3 (fresh triv 3 1 1 0) [.bcast 0 (tagVerifVec :: vb)] [] [] = [] := by decide +kernel
  rw [e1, e2, e3]
  exact ⟨rfl, rfl, rfl, by decide +kernel⟩

open Proofs.DkgAgree in
/-- non-vacuity of `honest_dealer_never_blamed_by_honest`: the run of the first example (vector and share in round one,
    nobody complains) meets every hypothesis; the receiver's outputs are empty -/
example : NoBlame s0.dealer (allOuts s0 [.bcast 0 (tagVerifVec :: vb), .priv 0 sb] [] []) ∧
    allOuts s0 [.bcast 0 (tagVerifVec :: vb), .priv 0 sb] [] [] = [] := by
  have hcl1 : ∀ t : St triv, t.me = 1 → t.dealer = 0 → classify t (.bcast 0 (tagVerifVec :: vb)) = .vec vb := by
    intro t e1 e2
    exact Proofs.DkgCommute.classify_vec t 0 e2.symm (by rw [e1]; decide) vb
  have hcl2 : ∀ t : St triv, t.me = 1 → t.dealer = 0 → classify t (.priv 0 sb) = .share sb := by
    intro t e1 e2
    exact Proofs.DkgCommute.classify_share t 0 e2.symm (by rw [e1]; decide) sb
  refine ⟨?_, by decide +kernel⟩
  refine honest_dealer_never_blamed_by_honest Htriv ∅ s0 (hd_init Htriv 3 1 0 (by decide)) rfl rfl (by simp)
    (fun k c hc => by cases hc) rfl rfl rfl _ _ _ ?_ ?_ ?_ ⟨_, by simp, vb, fun t ht => hcl1 t ht.1 ht.2.1⟩
    ⟨_, List.mem_cons_of_mem _ (by simp), sb, fun t ht => hcl2 t ht.1 ht.2.1⟩ (fun k hk => by simp at hk) ?_ ?_ ?_ ?_
  · intro e he t ht
    simp only [List.mem_cons, List.not_mem_nil, or_false] at he
    rcases he with rfl | rfl
    · rw [hcl1 t ht.1 ht.2.1]
      refine ⟨⟨rfl, ?_⟩, trivial, trivial⟩
      unfold parseVec
      have hth : t.threshold = 1 := ht.threshold
      have hlen : vb.length = verifVectorSize * (t.threshold + 1) := by
        rw [hth]; unfold vb verifVectorSize; rw [List.length_replicate]
      rw [if_neg (fun hne => hne hlen)]
      rfl
    · rw [hcl2 t ht.1 ht.2.1]
      refine ⟨⟨rfl, ?_⟩, trivial, trivial⟩
      rfl
  · intro e he; cases he
  · intro e he; cases he
  · -- no message of the dealer twice: the vector and the share are different messages
    show List.Pairwise _ ([Dl.bcast 0 (tagVerifVec :: vb), Dl.priv 0 sb] ++ ([] ++ []))
    simp only [List.append_nil, List.pairwise_cons, List.mem_cons, List.not_mem_nil, or_false, forall_eq,
      List.Pairwise.nil, and_true, IsEmpty.forall_iff, implies_true]
    intro t u ht hu
    rw [hcl1 t ht.1 ht.2.1, hcl2 u hu.1 hu.2.1]
    exact fun hh => hh
  · intro e he; cases he
  · intro e he; cases he
  · intro e he; cases he

end NonVacuity

end Props.C08

#print axioms Props.C08.handlers_blame
#print axioms Props.C08.timeouts_blame
#print axioms Props.C08.disq_monotone
#print axioms Props.C08.disqualified_end_fails
#print axioms Props.C08.unanswered_complaint_fails
#print axioms Props.C08.too_many_complaints_disqualify
#print axioms Props.C08.missing_vector_disqualifies
#print axioms Props.C08.late_messages_ignored
#print axioms Props.C08.malformed_vector_disqualifies
#print axioms Props.C08.fvss_keys_sound
#print axioms Props.C08.fvss_step_inv
#print axioms Props.C08.own_complaint_at_most_once
#print axioms Props.C08.share_vector_any_order
#print axioms Props.C08.complaint_answer_any_order
#print axioms Props.C08.honest_dealer_never_disqualified
#print axioms Props.C08.honest_dealer_init
#print axioms Props.C08.honest_never_blamed_by_honest
#print axioms Props.C08.honest_broadcasts_one_complaint
#print axioms Props.C08.blame_targets
#print axioms Props.C08.joint_round_never_blames_honest
#print axioms Props.C08.honest_dealer_never_blamed_by_honest
#print axioms Props.C08.delivery_never_blames_honest_dealer
