import Proofs.AbsBatch
import Proofs.BatchBound
import Extracted.Guards
import Extracted.Consts

/-! # C03 — batch verification agrees index-by-index with individual verification

The internal randomness is a universally quantified coefficient vector; the statement holds for every
vector outside the explicit bad set `¬ Good` (some contiguous segment that contains a defective entry has
its randomised defects summing to zero). -/

namespace Props.C03

variable {r : ℕ} [Fact r.Prime] {P : PairingGroups r}

theorem prepLeaf_correct (C : Codec P) (h : P.G1) (pk : P.G2) (sig : Bytes) (c : ZMod r) (hc : c ≠ 0) :
    ((prepLeaf C pk sig c).2 && (expected h (prepLeaf C pk sig c).1).isValid) = verifyCore C pk sig h := by
  rw [Bool.eq_iff_iff, verifyCore_true_iff]
  by_cases hpre : sig.length = 48 ∧ pk ≠ 0
  · obtain ⟨hl, hpk⟩ := hpre
    simp only [← readG1_some_iff, hpk, ne_eq, not_false_eq_true, true_and]
    cases hr : readG1 C sig with
    | none => rw [prepLeaf_none C pk sig c hl hpk hr]; simp [expected, Res.isValid]
    | some s =>
      rw [prepLeaf_some C pk sig c s hl hpk hr]
      simp only [Bool.true_and, Option.some.injEq, exists_eq_left', expected, defect_smul h c pk s _ .undefined,
        smul_eq_zero_iff_right hc]
      simp only [defect, sub_eq_zero]
      split <;> simp [Res.isValid, *]
  · rw [prepLeaf_pre_false C pk sig c hpre]
    simp only [Bool.false_and, Bool.false_eq_true, false_iff]
    rintro ⟨hpk, s, rfl, -⟩
    exact hpre ⟨C.length_encode _, hpk⟩

theorem prepLeaf_shape (C : Codec P) (h : P.G1) (pk : P.G2) (sig : Bytes) (c : ZMod r) :
    ((prepLeaf C pk sig c).1.res = .invalid → defect h (prepLeaf C pk sig c).1 = 0) ∧
    (prepLeaf C pk sig c).1.res ≠ .valid := by
  rcases prepLeaf_leaf C pk sig with hz | ⟨pk0, s, hs⟩
  · rw [hz c]; exact ⟨fun _ => defect_zero h _, nofun⟩
  · rw [hs c]; exact ⟨nofun, nofun⟩

theorem zip_individual (C : Codec P) (h : P.G1) (inputs : List (P.G2 × Bytes × ZMod r))
    (hc : ∀ x ∈ inputs, x.2.2 ≠ 0) :
    List.zipWith (fun (p : BLeaf P × Bool) (v : Res) => p.2 && v.isValid)
        (inputs.map fun x => prepLeaf C x.1 x.2.1 x.2.2)
        (inputs.map fun x => expected h (prepLeaf C x.1 x.2.1 x.2.2).1)
      = inputs.map fun x => verifyCore C x.1 x.2.1 h := by
  rw [List.zipWith_map, List.zipWith_self]
  exact List.map_congr_left fun x hx => prepLeaf_correct C h x.1 x.2.1 x.2.2 (hc x hx)

/-- **batch verification returns, at every index, the verdict of individual verification**, for every
    list length, every tree split, every kind of invalid entry (correlated errors included), every
    coefficient vector with non-zero entries outside the bad set. -/
theorem batch_eq_individual (C : Codec P) (split : Nat → Nat) (hsplit : ∀ n, 2 ≤ n → 0 < split n ∧ split n < n)
    (h : P.G1) (inputs : List (P.G2 × Bytes × ZMod r)) (hc : ∀ x ∈ inputs, x.2.2 ≠ 0)
    (hgood : Good h (inputs.map fun x => (prepLeaf C x.1 x.2.1 x.2.2).1)) :
    batchVerify C split h inputs = inputs.map fun x => verifyCore C x.1 x.2.1 h := by
  have hspec := treeVerify_spec split hsplit h (inputs.length + 1) _
    (by rw [List.length_map]; exact Nat.lt_succ_self _) hgood
    (List.forall_mem_map.2 fun y _ => (prepLeaf_shape C h y.1 y.2.1 y.2.2).1)
    (List.forall_mem_map.2 fun y _ => (prepLeaf_shape C h y.1 y.2.1 y.2.2).2)
  rw [List.map_map] at hspec
  unfold batchVerify
  simp only [List.length_map, List.map_map]
  exact (congrArg _ hspec).trans (zip_individual C h inputs hc)

theorem prep_defect (C : Codec P) (h : P.G1) (pk : P.G2) (sig : Bytes) (c : ZMod r) :
    defect h (prepLeaf C pk sig c).1 = c • defect h (prepLeaf C pk sig 1).1 := by
  rcases prepLeaf_leaf C pk sig with hz | ⟨pk0, s, hs⟩
  · rw [hz c, hz 1, defect_zero, smul_zero]
  · rw [hs c, hs 1, one_smul, one_smul, defect_smul]

open Proofs.BatchCount Proofs.BatchBound in
/-- **batch verification equals individual verification for all but a few coefficient vectors**: for every list
    of `n` keys and signatures (any mix of valid, invalid, correlated, malformed, off-group, identity) there is a set
    of at most `(n+1)² · N^(n-1)` of the `N^n` coefficient vectors (`N = 2^128`: a fraction `≤ (n+1)²/2^128`) outside
    which the result is, index by index, what `Verify` returns -/
theorem batch_agrees_outside_few (C : Codec P) (split : Nat → Nat) (hsplit : ∀ n, 2 ≤ n → 0 < split n ∧ split n < n)
    (h : P.G1) (n N : ℕ) (hN : N < r) (pk : Fin n → P.G2) (sig : Fin n → Bytes) :
    ∃ B : Finset (Fin n → Fin N), B.card ≤ (n + 1) ^ 2 * N ^ (n - 1) ∧
      ∀ c, c ∉ B →
        batchVerify C split h (List.ofFn fun i => (pk i, sig i, coef (r := r) N (c i))) =
          List.ofFn fun i => verifyCore C (pk i) (sig i) h := by
  obtain ⟨B, hB, hgood⟩ := bad_vectors_few n N hN fun i => defect h (prepLeaf C (pk i) (sig i) 1).1
  refine ⟨B, hB, fun c hc => ?_⟩
  rw [batch_eq_individual C split hsplit h _ (List.forall_mem_ofFn_iff.2 fun i => coef_ne_zero N hN (c i)), List.map_ofFn]
  · rfl
  · rw [good_iff_goodVec, List.map_ofFn, List.map_ofFn]
    simp only [Function.comp_def, prep_defect C h _ _ (coef N _)]
    exact hgood c hc

/-- the result has one boolean per input -/
theorem batch_length (C : Codec P) (split : Nat → Nat) (hsplit : ∀ n, 2 ≤ n → 0 < split n ∧ split n < n)
    (h : P.G1) (inputs : List (P.G2 × Bytes × ZMod r)) (hc : ∀ x ∈ inputs, x.2.2 ≠ 0)
    (hgood : Good h (inputs.map fun x => (prepLeaf C x.1 x.2.1 x.2.2).1)) :
    (batchVerify C split h inputs).length = inputs.length := by
  rw [batch_eq_individual C split hsplit h inputs hc hgood]; simp

/-- the code's split `left = len - len/2` is admissible; so is any other proper split -/
theorem code_split_ok : ∀ n, 2 ≤ n → 0 < n - n / 2 ∧ n - n / 2 < n := by
  intro n hn; omega

/-- a valid-only batch is good for every coefficient vector: nothing can go wrong -/
theorem good_of_all_valid (h : P.G1) (l : List (BLeaf P)) (hv : ∀ x ∈ l, defect h x = 0) : Good h l := by
  intro a b ⟨x, hx, hne⟩
  exact absurd (hv x (List.mem_of_mem_drop (List.mem_of_mem_take hx))) hne

/-- a batch with exactly one defective entry is good for every coefficient vector -/
theorem good_of_single_defect (h : P.G1) (pre post : List (BLeaf P)) (x : BLeaf P)
    (hpre : ∀ y ∈ pre, defect h y = 0) (hpost : ∀ y ∈ post, defect h y = 0) : Good h (pre ++ x :: post) := by
  by_cases hx : defect h x = 0
  · exact good_of_all_valid h _ (List.forall_mem_append.2 ⟨hpre, List.forall_mem_cons.2 ⟨hx, hpost⟩⟩)
  -- the defect of `x` is the only non-zero entry of the defect vector, and occurs once
  have hcount : ∀ l : List (BLeaf P), (∀ y ∈ l, defect h y = 0) → (l.map (defect h)).count (defect h x) = 0 :=
    fun l hl => List.count_eq_zero.2 fun hm => by
      obtain ⟨y, hy, e⟩ := List.mem_map.1 hm
      exact hx (e ▸ hl y hy)
  refine (good_iff_goodVec h _).2 (GoodVec.of_count_le_one (defect h x) ?_ ?_)
  · rw [List.forall_mem_map, List.forall_mem_append, List.forall_mem_cons]
    exact ⟨fun y hy _ => hpre y hy, fun hne => absurd rfl hne, fun y hy _ => hpost y hy⟩
  · rw [List.map_append, List.map_cons, List.count_append, List.count_cons_self, hcount pre hpre, hcount post hpost]

/-- on an input error every returned boolean is false (the Go-level guards return `falseSlice`); guards as the
    code has them now -/
theorem tie_guards (lp ls : Int) :
    Extracted.Guards.crypto_BatchVerifyBLSSignaturesOneMessage_g0 lp = decide (lp = 0) ∧
    Extracted.Guards.crypto_BatchVerifyBLSSignaturesOneMessage_g1 lp ls = decide (lp ≠ ls) ∧
    Extracted.Consts.crypto_securityBits = 128 := ⟨rfl, rfl, by decide⟩

/-- coefficients are `rand + 1` with `rand < 2^(8·(securityBits/8))`: never zero modulo the group order -/
theorem coeff_nonzero (rnd : Nat) (hr : rnd < 2 ^ (8 * (Extracted.Consts.crypto_securityBits / 8)).toNat) :
    (rnd + 1) % 0x73eda753299d7d483339d80809a1d80553bda402fffe5bfeffffffff00000001 ≠ 0 := by
  have : (8 * (Extracted.Consts.crypto_securityBits / 8)).toNat = 128 := by decide
  rw [this] at hr
  omega

end Props.C03

#print axioms Props.C03.prepLeaf_correct
#print axioms Props.C03.zip_individual
#print axioms Props.C03.batch_eq_individual
#print axioms Props.C03.batch_length
#print axioms Props.C03.code_split_ok
#print axioms Props.C03.good_of_all_valid
#print axioms Props.C03.good_of_single_defect
#print axioms Props.C03.tie_guards
#print axioms Props.C03.coeff_nonzero
#print axioms treeVerify_spec
#print axioms Props.C03.batch_agrees_outside_few
