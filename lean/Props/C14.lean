import Model.Prg
import Proofs.Prg
import Extracted.Consts

/-! # C14 — ChaCha20 PRG equals the RFC 8439 keystream; Store/Restore resumes exactly

Property theorems only (helper lemmas are in `Proofs/Prg.lean`).  The block function `blk` is
universally quantified: the statements hold for the Go control flow over *any* 64-byte block
function; that `Model.ChaCha20.block` is the RFC function and that x/crypto computes it is the
correspondence part of the check. -/

namespace Props.C14
open Model Model.Prg

/-- what a user may assume about a generator that has output `T` bytes so far -/
def StateInv (blk : Nat → Bytes) (s : State) (T : Nat) : Prop :=
  Inv blk s.cipher T ∧ s.counter = T ∧ T < 2 ^ 64

theorem xor_zeros (ks : Bytes) (n : Nat) (h : ks.length = n) : xorBytes (zeros n) ks = ks := by
  subst h
  unfold xorBytes zeros
  induction ks with
  | nil => simp
  | cons a t ih => simp [List.replicate_succ, ih]

/-- One `Read` of any size returns the next bytes of the keystream (both message paths). -/
theorem read_spec (blk : Nat → Bytes) (hblk : ∀ i, (blk i).length = 64) (s : State) (T n : Nat)
    (h : StateInv blk s T) (hn : T + n < 2 ^ 64) :
    (read blk s n).2 = (keystream blk (T + n)).drop T ∧ StateInv blk (read blk s n).1 (T + n) := by
  obtain ⟨hi, hc, _⟩ := h
  have hs := take_spec blk hblk s.cipher T n hi
  have hl : ((keystream blk (T + n)).drop T).length = n := by
    rw [List.length_drop, keystream_length blk hblk]; omega
  unfold Prg.read Cipher.xorKeyStream
  simp only [ite_self, zeros, List.length_replicate]
  refine ⟨?_, ?_, ?_, hn⟩
  · rw [hs.1]; exact xor_zeros _ _ hl
  · exact hs.2
  · simp only [hc]; omega

def readMany (blk : Nat → Bytes) : State → List Nat → State × Bytes
  | s, [] => (s, [])
  | s, n :: ns =>
    let (s1, o1) := read blk s n
    let (s2, o2) := readMany blk s1 ns
    (s2, o1 ++ o2)

theorem drop_glue {α} (X : List α) (T a : Nat) (h : T + a ≤ X.length) :
    (X.take (T + a)).drop T ++ X.drop (T + a) = X.drop T := by
  conv => rhs; rw [← List.take_append_drop (T + a) X]
  rw [List.drop_append_of_le_length]
  rw [List.length_take]; omega

theorem readMany_spec (blk : Nat → Bytes) (hblk : ∀ i, (blk i).length = 64) (sizes : List Nat) :
    ∀ (s : State) (T : Nat), StateInv blk s T → T + sizes.sum < 2 ^ 64 →
    (readMany blk s sizes).2 = (keystream blk (T + sizes.sum)).drop T ∧
    StateInv blk (readMany blk s sizes).1 (T + sizes.sum) := by
  induction sizes with
  | nil =>
    intro s T h _
    simp only [readMany, List.sum_nil, Nat.add_zero]
    refine ⟨?_, h⟩
    rw [List.drop_of_length_le]; rw [keystream_length blk hblk]; exact Nat.le_refl T
  | cons n ns ih =>
    intro s T h hb
    simp only [List.sum_cons] at hb ⊢
    have h1 := read_spec blk hblk s T n h (by omega)
    have h2 := ih (read blk s n).1 (T + n) h1.2 (by omega)
    simp only [readMany]
    rw [show T + (n + ns.sum) = T + n + ns.sum by omega]
    refine ⟨?_, h2.2⟩
    rw [h2.1, h1.1]
    rw [← keystream_prefix blk hblk (T + n) (T + n + ns.sum) (by omega)]
    apply drop_glue
    rw [keystream_length blk hblk]; omega

/-- **Reads of any sizes concatenate to the keystream prefix** (no bound on the number of reads). -/
theorem read_concat (blk : Nat → Bytes) (hblk : ∀ i, (blk i).length = 64) (seed cust : Bytes)
    (s0 : State) (h0 : new? seed cust = some s0) (sizes : List Nat) (hb : sizes.sum < 2 ^ 64) :
    (readMany blk s0 sizes).2 = keystream blk sizes.sum := by
  have hinit : StateInv blk s0 0 := by
    rw [((new?_eq_some_iff seed cust s0).1 h0).2.2]
    exact ⟨inv_init blk, rfl, by decide⟩
  have := (readMany_spec blk hblk sizes s0 0 hinit (by omega)).1
  simpa using this

/-- constructor guards: exactly the 32-byte seeds with customizers of at most 12 bytes are accepted -/
theorem ctor_guards (seed cust : Bytes) :
    (new? seed cust).isSome ↔ seed.length = 32 ∧ cust.length ≤ 12 := by
  rw [Option.isSome_iff_exists]
  simp [new?_eq_some_iff]

/-- the customizer is zero-padded to 12 bytes -/
theorem ctor_pad (seed cust : Bytes) (s : State) (h : new? seed cust = some s) :
    s.cust.length = 12 ∧ s.seed.length = 32 ∧ s.cust.take cust.length = cust := by
  obtain ⟨h1, h2, rfl⟩ := (new?_eq_some_iff seed cust s).1 h
  simp [zeros, h1]
  omega

theorem store_len (s : State) (h1 : s.seed.length = 32) (h2 : s.cust.length = 12) :
    (store s).length = 52 := by
  rw [store, List.length_append, List.length_append, h1, h2, natLE_length]

theorem restore_guard (blkOf : Bytes → Bytes → Nat → Bytes) (st : Bytes) :
    (restore? blkOf st).isSome ↔ st.length = 52 := by
  unfold restore?
  split <;> simp_all

/-- **Store/Restore resumes exactly**: for every generator that has output `T < 2^38` bytes (the
    RFC's 2^32-block limit), the generator rebuilt from `Store()` is the original generator as a
    state (up to the scratch buffer of `UintN`, see C15 `uintN_scratch_irrelevant`), so every later
    output is the continuation of the stream. -/
theorem restore_store (blkOf : Bytes → Bytes → Nat → Bytes)
    (hblk : ∀ k n i, (blkOf k n i).length = 64) (s : State) (T : Nat)
    (hs : s.seed.length = 32) (hc : s.cust.length = 12)
    (h : StateInv (blkOf s.seed s.cust) s T) (hT : T < 2 ^ 38) :
    restore? blkOf (store s) = some { s with ubuf := zeros 8 } := by
  obtain ⟨hi, hcnt, _⟩ := h
  obtain ⟨htake, hcust, hdrop⟩ := store_fields s hs hc
  have hctr : leNat ((store s).drop 44) = T := by
    rw [hdrop, leNat_natLE, hcnt]
    exact Nat.mod_eq_of_lt (by omega)
  rw [(restore?_eq_some_iff blkOf (store s) _).2 ⟨store_len s hs hc, rfl⟩, htake, hcust, hctr,
    Nat.mod_eq_of_lt (by omega : T / 64 < 2 ^ 32), Inv.unique _ (inv_setCounter _ (hblk _ _) T) hi, ← hcnt]

theorem block_length (key nonce : Bytes) (i : Nat) : (ChaCha20.block key nonce i).length = 64 := by
  simp only [ChaCha20.block, List.length_flatMap, ChaCha20.ser32, natLE_length, List.map_const',
    List.length_finRange]
  rfl

/-- RFC 8439 §2.3.2 test vector (block counter 1), checked by the kernel. -/
theorem rfc8439_block_kat :
    ChaCha20.block ((List.range 32).map UInt8.ofNat) [0,0,0,9,0,0,0,0x4a,0,0,0,0] 1 =
    [0x10,0xf1,0xe7,0xe4,0xd1,0x3b,0x59,0x15,0x50,0x0f,0xdd,0x1f,0xa3,0x20,0x71,0xc4,
     0xc7,0xd1,0xf4,0xc7,0x33,0xc0,0x68,0x03,0x04,0x22,0xaa,0x9a,0xc3,0xd4,0x6c,0x4e,
     0xd2,0x82,0x64,0x46,0x07,0x9f,0xaa,0x09,0x14,0xc2,0xd7,0x05,0xd9,0x8b,0x02,0xa2,
     0xb5,0x12,0x9c,0xd1,0xde,0x16,0x4e,0xb9,0xcb,0xd0,0x83,0xe8,0xa2,0x50,0x3c,0x4e] := by
  decide +kernel

/-- `read_concat` for the instance the driver runs -/
theorem read_concat_chacha (seed cust : Bytes) (s0 : State) (h0 : new? seed cust = some s0)
    (sizes : List Nat) (hb : sizes.sum < 2 ^ 64) :
    (readMany (ChaCha20.block s0.seed s0.cust) s0 sizes).2
      = keystream (ChaCha20.block s0.seed s0.cust) sizes.sum :=
  read_concat _ (block_length _ _) seed cust s0 h0 sizes hb

/-! ### tie to the constants the code has now (regenerated on every run) -/

theorem tie_seedLen : Extracted.Consts.random_Chacha20SeedLen = (seedLen : Int) := by decide
theorem tie_custMaxLen : Extracted.Consts.random_Chacha20CustomizerMaxLen = (custMaxLen : Int) := by decide
theorem tie_emptyMessage : Extracted.Consts.random_lenEmptyMessage = (lenEmptyMessage : Int) := by decide
theorem tie_stateLen : Extracted.Consts.random_keySize + Extracted.Consts.random_nonceSize
    + Extracted.Consts.random_counterBytesLen = 52 := by decide

/-! ### non-vacuity -/

example : ∃ s0, new? (zeros 32) [1, 2, 3] = some s0 ∧ StateInv (ChaCha20.block s0.seed s0.cust) s0 0 :=
  ⟨_, rfl, inv_init _, rfl, by decide⟩

example : (restore? ChaCha20.block (store ⟨zeros 32, zeros 12, 70,
    ⟨2, (ChaCha20.block (zeros 32) (zeros 12) 1).drop 6⟩, zeros 8⟩)).isSome := by
  decide +kernel

end Props.C14

#print axioms Props.C14.read_spec
#print axioms Props.C14.readMany_spec
#print axioms Props.C14.read_concat
#print axioms Props.C14.read_concat_chacha
#print axioms Props.C14.restore_store
#print axioms Props.C14.ctor_guards
#print axioms Props.C14.ctor_pad
#print axioms Props.C14.store_len
#print axioms Props.C14.restore_guard
#print axioms Props.C14.block_length
#print axioms Props.C14.rfc8439_block_kat
#print axioms Props.C14.tie_seedLen
#print axioms Props.C14.tie_custMaxLen
#print axioms Props.C14.tie_emptyMessage
#print axioms Props.C14.tie_stateLen
