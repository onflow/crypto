import Proofs.BlsPoints

/-! # C04 (executable model) — the curve arithmetic the driver runs is the group of the curve

The abstract theorems of `Props/C04.lean` hold for every pairing structure. Here the *executable* model that is
compared with the implementation on every run (`Model.Curve` over `Fp.ops p`, used by the driver operations
`agg.sig`, `sig.expect`, `bls.verify`, …) is tied to Mathlib's group of points of `y² = x³ + 4` over `ZMod p`:
its sum of points, its scalar multiplication and its Jacobian formulas are the group operations, so the model's
answers obey the aggregation laws for every input, not only on the cases of a run. -/

namespace Props.C04Model
open Model Model.Curve Proofs.CurveGroup Proofs.CurveInst

noncomputable abbrev pt (P : Bls.P1) : (W Bls.p 0 4).Point := toPoint Bls.p 0 4 P

/-- **the model's aggregation of signatures is the sum in the group of the curve** (Mathlib's group law), for
    every list of points its decoder accepts -/
theorem model_sum_is_group_sum (ps : List Bls.P1) (h : ∀ P ∈ ps, Proofs.E1Codec.Valid P) :
    pt (Curve.sum Bls.E1 ps) = (ps.map pt).sum :=
  (sum_eq Bls.p 0 4 bls_Δ Proofs.E1Codec.p_two Proofs.E1Codec.p_bits ps (fun P hP => valid_of_codec P (h P hP))).2

/-- hence it does not depend on the order of the signatures -/
theorem model_sum_order_independent (ps qs : List Bls.P1) (h : ∀ P ∈ ps, Proofs.E1Codec.Valid P) (hperm : ps.Perm qs) :
    Curve.sum Bls.E1 ps = Curve.sum Bls.E1 qs :=
  sum_perm Bls.p 0 4 bls_Δ Proofs.E1Codec.p_two Proofs.E1Codec.p_bits ps qs (fun P hP => valid_of_codec P (h P hP)) hperm

/-- and nested aggregation is aggregation of the concatenation -/
theorem model_sum_nested (ps qs : List Bls.P1) (hp : ∀ P ∈ ps, Proofs.E1Codec.Valid P) (hq : ∀ P ∈ qs, Proofs.E1Codec.Valid P) :
    Curve.sum Bls.E1 [Curve.sum Bls.E1 ps, Curve.sum Bls.E1 qs] = Curve.sum Bls.E1 (ps ++ qs) := by
  have vp : ∀ P ∈ ps, Valid Bls.p 0 4 P := fun P hP => valid_of_codec P (hp P hP)
  have vq : ∀ P ∈ qs, Valid Bls.p 0 4 P := fun P hP => valid_of_codec P (hq P hP)
  rw [sum_E1 ps vp, sum_E1 qs vq,
    sum_E1 [_, _] (fun P hP => by rcases List.mem_pair.1 hP with rfl | rfl <;> exact valid_ofPoint ..),
    sum_E1 (ps ++ qs) (fun P hP => (List.mem_append.1 hP).elim (vp P) (vq P))]
  simp only [List.map_cons, List.map_nil, List.sum_cons, List.sum_nil, add_zero, List.map_append, List.sum_append,
    toPoint_ofPoint]

/-- **the model's scalar multiplication is `k • P`** -/
theorem model_mul_is_nsmul (k : ℕ) (hk : k < 2 ^ 800) (P : Bls.P1) (hP : Valid Bls.p 0 4 P) :
    Valid Bls.p 0 4 (Curve.mul Bls.E1 k P) ∧ pt (Curve.mul Bls.E1 k P) = k • pt P :=
  mul_eq Bls.p 0 4 bls_Δ Proofs.E1Codec.p_two Proofs.E1Codec.p_bits k hk P hP

/-- **the signature of the aggregated private key is the aggregate of the signatures, in the executable model**: for a
    hash point `H` in the subgroup the membership test accepts (`r • H = ∞`) and private keys `k₁ k₂ < r`,
    `((k₁ + k₂) mod r) • H = k₁ • H + k₂ • H` as values of the model -/
theorem model_sign_aggregated_key (k1 k2 : ℕ) (h1 : k1 < Bls.r) (h2 : k2 < Bls.r) (H : Bls.P1) (hH : Valid Bls.p 0 4 H)
    (hG : Bls.inG1 H = true) :
    Curve.mul Bls.E1 ((k1 + k2) % Bls.r) H = Curve.sum Bls.E1 [Curve.mul Bls.E1 k1 H, Curve.mul Bls.E1 k2 H] := by
  rw [mul_E1 k1 (h1.trans Bls.r_bits) H hH, mul_E1 k2 (h2.trans Bls.r_bits) H hH,
    mul_E1 _ ((Nat.mod_lt _ Bls.r_pos).trans Bls.r_bits) H hH,
    sum_E1 [_, _] (fun P hP => by rcases List.mem_pair.1 hP with rfl | rfl <;> exact valid_ofPoint ..)]
  simp only [List.map_cons, List.map_nil, List.sum_cons, List.sum_nil, add_zero, toPoint_ofPoint, ← add_smul]
  exact congrArg _ (nsmul_congr_mod ((inG1_iff H hH).1 hG) (Nat.mod_mod _ _))

end Props.C04Model

#print axioms Props.C04Model.model_sum_is_group_sum
#print axioms Props.C04Model.model_sum_order_independent
#print axioms Props.C04Model.model_sum_nested
#print axioms Props.C04Model.model_mul_is_nsmul
#print axioms Props.C04Model.model_sign_aggregated_key
