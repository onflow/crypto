import Extracted.Footprints

/-! # C19 — operations documented as read-only or thread-safe are race-free

(1) Footprint model: an operation reads and writes sets of abstract locations; two operations conflict when one
    writes a location the other reads or writes. Operations that write no shared location never conflict, and
    each returns what it returns when run alone (its result is a function of locations nobody writes).
(2) Tie: the write footprints on shared roots (receiver, parameters, package variables), the method calls on
    shared roots and the provenance/const-ness of every cgo argument are regenerated from the code on every
    run; the listed operations must have no shared write, only read-only calls, and pass shared objects to C
    through pointers to const only.

*partial*: the Go memory model and the C side's actual accesses (beyond `const`) are not modelled; callee
footprints are direct (one level) — the race-detector runs of the harness cover the transitive reality. -/

namespace Props.C19

/-! ### (1) footprint model -/

structure OpFP (Loc : Type) where
  reads : List Loc
  writes : List Loc

variable {Loc : Type} [DecidableEq Loc]

def conflict (a b : OpFP Loc) : Bool :=
  a.writes.any (fun l => b.reads.contains l || b.writes.contains l) || b.writes.any (fun l => a.reads.contains l)

/-- operations without shared writes are pairwise conflict-free: no data race in any interleaving -/
theorem drf (ops : List (OpFP Loc)) (h : ∀ o ∈ ops, o.writes = []) :
    ∀ a ∈ ops, ∀ b ∈ ops, conflict a b = false := by
  intro a ha b hb
  simp [conflict, h a ha, h b hb]

/-- and each operation returns what it returns when run alone: its result depends on the locations it reads
    only, and no concurrent operation changes them -/
theorem result_unchanged {Val Res : Type} (o : OpFP Loc) (run : (Loc → Val) → Res)
    (hdep : ∀ m m' : Loc → Val, (∀ l ∈ o.reads, m l = m' l) → run m = run m')
    (others : List (OpFP Loc)) (hw : ∀ p ∈ others, p.writes = [])
    (m m' : Loc → Val) (hframe : ∀ l, (∀ p ∈ others, l ∉ p.writes) → m l = m' l) :
    run m = run m' := by
  apply hdep
  intro l _
  apply hframe
  intro p hp
  rw [hw p hp]; simp

/-! ### (2) tie to the code as it is now -/

open Extracted.Footprints

def find? (n : String) : Option Fn := fns.find? (·.name == n)

/-- the operations the property lists (and the helpers they are made of) -/
def listed : List String := [
  "hash.kmac128_ComputeHash", "hash.kmac128_SumHash",
  "crypto.prKeyBLSBLS12381_Sign", "crypto.pubKeyBLSBLS12381_Verify", "crypto.checkBLSHasher",
  "crypto.BLSVerifyPOP", "crypto.SPOCKVerify", "crypto.SPOCKVerifyAgainstData",
  "crypto.VerifyBLSSignatureOneMessage", "crypto.VerifyBLSSignatureManyMessages",
  "crypto.BatchVerifyBLSSignaturesOneMessage", "crypto.AggregateBLSPublicKeys",
  "crypto.prKeyECDSA_Sign", "crypto.prKeyECDSA_signHash", "crypto.pubKeyECDSA_Verify", "crypto.pubKeyECDSA_verifyHash"]

/-- method calls on shared objects that are read-only: KMAC `ComputeHash`/`Clone` (shown below), accessors,
    encoders, and the listed operations themselves -/
def readOnlyCalls : List String := ["ComputeHash", "Clone", "Size", "Encode", "Verify", "Params", "signHash",
  "verifyHash", "Algorithm", "isIdentity", "Bytes"]

def callOK (c : String × String) : Bool := readOnlyCalls.contains c.2

/-- cgo argument check: every argument that points into a shared object goes to a `const` parameter -/
def cgoOK (call : String × List String) : Bool :=
  match cProtos.find? (·.1 == call.1) with
  | some (_, consts) => (call.2.zip consts).all fun (a, c) => a == "local" || c
  | none => call.2.all (· == "local")

/-- the two checks below in one evaluation by the kernel: string equality is decided on the UTF-8 bytes, which have
    to be computed from each literal, and that is nearly all the work; this way it is done once for each name of
    the table (the elaborator's `decide` would do it a second time, and more slowly) -/
theorem table_checks :
    listed.all (fun n => match find? n with
      | some f => f.writes.isEmpty && f.calls.all callOK && f.cgo.all cgoOK
      | none => false) = true ∧
    (find? "hash.kmac128_ComputeHash").map (·.calls) = some [("recv:k", "Clone")] ∧
    (find? "hash.kmac128_SumHash").map (·.calls) = some [("recv:k", "Clone")] := by decide +kernel

/-- **all listed operations exist, write no shared location, make only read-only calls on shared objects, and
    hand shared objects to C through pointers to const** -/
theorem footprints : listed.all (fun n => match find? n with
    | some f => f.writes.isEmpty && f.calls.all callOK && f.cgo.all cgoOK
    | none => false) = true := table_checks.1

/-- KMAC128 `ComputeHash` and `SumHash` only ever `Clone` the shared state: everything else happens on the clone -/
theorem kmac_clone_only :
    (find? "hash.kmac128_ComputeHash").map (·.calls) = some [("recv:k", "Clone")] ∧
    (find? "hash.kmac128_SumHash").map (·.calls) = some [("recv:k", "Clone")] := table_checks.2

/-- the C entry points that receive keys take them through pointers to const -/
theorem c_const_keys :
    cProtos.lookup "bls_verify" = some [true, true, true, true] ∧
    cProtos.lookup "bls_spock_verify" = some [true, true, true, true] ∧
    (cProtos.lookup "bls_sign").map (·.drop 1) = some [true, true, true] ∧
    (cProtos.lookup "bls_batch_verify").map (fun l => l.drop 2) = some [true, true, true, true, true] := by decide +kernel

end Props.C19

#print axioms Props.C19.drf
#print axioms Props.C19.result_unchanged
#print axioms Props.C19.footprints
#print axioms Props.C19.kmac_clone_only
#print axioms Props.C19.c_const_keys
