import Extracted.Hazards
import Extracted.Guards
import Extracted.Consts
import Props.C10
import Props.C18
import Props.C09Audit

/-! # C09 — no exported function panics or corrupts memory on untrusted input

(1) Coverage: every place where the Go code hands the first element of a slice to C (`&x[0]`, which panics on
    an empty slice and lets C read `len` bytes) is listed with the reason why the slice is non-empty and long
    enough there; the list is checked against the sites extracted from the code on every run, so a new
    unguarded site breaks `covered_matches`.
(2) Guard lemmas: the guards of the code as it is now imply the non-emptiness / exact length the sites need.
(3) State-machine part: handler sequences never reach a nil key vector (C08/C10 invariants), out-of-range
    indices are refused before use.

*partial*: memory safety inside BLST and the Go runtime is outside the model; a `hash.Hasher` that lies about
its `Size()` is a program, not an input. -/

namespace Props.C09

inductive Why
  | guardedLength      -- the function returns before this point unless the slice has the exact positive length
  | nonEmptyList       -- the function returns before this point on an empty list; the buffer has one entry per element
  | freshBuffer        -- allocated in the function with a positive constant size
  | hasherContract     -- output of a hasher whose Size() was checked to be 128 (hash.Hasher contract)
  | callersGuard       -- unexported helper: every call site passes a buffer whose length was checked / allocated by the caller
  | stateInvariant     -- protected by a state-machine invariant proved in Props.C08 / Props.C10 / Props.C18
  | testOnlyHelper     -- unexported and not reachable from the exported API (used by the repository's tests only)
deriving DecidableEq, Repr

def covered : List (String × String × Why) := [
  ("AggregateBLSPrivateKeys", "scalars", .nonEmptyList),
  ("AggregateBLSPublicKeys", "points", .nonEmptyList),
  ("AggregateBLSSignatures", "aggregatedSig", .freshBuffer),
  ("AggregateBLSSignatures", "flatSigs", .nonEmptyList),
  ("BLSReconstructThresholdSignature", "flatShares", .nonEmptyList),
  ("BLSReconstructThresholdSignature", "indexSigners", .nonEmptyList),
  ("BLSReconstructThresholdSignature", "thresholdSignature", .freshBuffer),
  ("BLSThresholdKeyGen", "a", .callersGuard),
  ("BatchVerifyBLSSignaturesOneMessage", "flatSigs", .nonEmptyList),
  ("BatchVerifyBLSSignaturesOneMessage", "h", .hasherContract),
  ("BatchVerifyBLSSignaturesOneMessage", "pkPoints", .nonEmptyList),
  ("BatchVerifyBLSSignaturesOneMessage", "seed", .nonEmptyList),
  ("BatchVerifyBLSSignaturesOneMessage", "verifInt", .nonEmptyList),
  ("E2PolynomialImages", "A", .callersGuard),
  ("E2PolynomialImages", "out", .callersGuard),
  ("JointFeldmanState_sumUpQualifiedKeys", "qualifiedPubKey", .stateInvariant),
  ("JointFeldmanState_sumUpQualifiedKeys", "qualifiedx", .stateInvariant),
  ("JointFeldmanState_sumUpQualifiedKeys", "qualifiedy[i]", .stateInvariant),
  ("RemoveBLSPublicKeys", "pointsToSubtract", .nonEmptyList),
  ("SPOCKVerify", "proof1", .guardedLength),
  ("SPOCKVerify", "proof2", .guardedLength),
  ("VerifyBLSSignatureManyMessages", "allPks", .nonEmptyList),
  ("VerifyBLSSignatureManyMessages", "distinctPks", .nonEmptyList),
  ("VerifyBLSSignatureManyMessages", "flatDistinctHashes", .nonEmptyList),
  ("VerifyBLSSignatureManyMessages", "flatHashes", .nonEmptyList),
  ("VerifyBLSSignatureManyMessages", "hashPerPk", .nonEmptyList),
  ("VerifyBLSSignatureManyMessages", "lenHashes", .nonEmptyList),
  ("VerifyBLSSignatureManyMessages", "pkPerHash", .nonEmptyList),
  ("VerifyBLSSignatureManyMessages", "s", .guardedLength),
  ("blsThresholdSignatureInspector_reconstructThresholdSignature", "shares", .stateInvariant),
  ("blsThresholdSignatureInspector_reconstructThresholdSignature", "signers", .stateInvariant),
  ("blsThresholdSignatureInspector_reconstructThresholdSignature", "thresholdSignature", .freshBuffer),
  ("feldmanVSSQualState_End", "s.vA", .stateInvariant),
  ("feldmanVSSstate_End", "s.vA", .stateInvariant),
  ("frPolynomialImage", "a", .stateInvariant),
  ("frPolynomialImage", "dest", .callersGuard),
  ("generateFrPolynomial", "a", .freshBuffer),
  ("hashToG1Bytes", "data", .testOnlyHelper),
  ("hashToG1Bytes", "dst", .testOnlyHelper),
  ("hashToG1Bytes", "hash", .testOnlyHelper),
  ("mapToFr", "src", .callersGuard),
  ("mapToG1", "data", .testOnlyHelper),
  ("multi_pairing", "p1", .testOnlyHelper),
  ("multi_pairing", "p2", .testOnlyHelper),
  ("prKeyBLSBLS12381_Sign", "h", .hasherContract),
  ("prKeyBLSBLS12381_Sign", "s", .freshBuffer),
  ("prKeyBLSBLS12381_signWithXMDSHA256", "data", .testOnlyHelper),
  ("prKeyBLSBLS12381_signWithXMDSHA256", "dst", .testOnlyHelper),
  ("prKeyBLSBLS12381_signWithXMDSHA256", "hash", .testOnlyHelper),
  ("prKeyBLSBLS12381_signWithXMDSHA256", "s", .testOnlyHelper),
  ("pubKeyBLSBLS12381_Verify", "h", .hasherContract),
  ("pubKeyBLSBLS12381_Verify", "s", .guardedLength),
  ("readPointE1", "src", .testOnlyHelper),
  ("readPointE2", "src", .callersGuard),
  ("readScalarFrStar", "src", .guardedLength),
  ("readVerifVector", "A", .callersGuard),
  ("readVerifVector", "src", .callersGuard),
  ("unsafeMapToG1", "seed", .testOnlyHelper),
  ("unsafeMapToG1Complement", "seed", .testOnlyHelper),
  ("unsafeMapToG2", "seed", .testOnlyHelper),
  ("unsafeMapToG2Complement", "seed", .testOnlyHelper),
  ("writePointE1", "dest", .callersGuard),
  ("writePointE2", "dest", .callersGuard),
  ("writeScalar", "dest", .callersGuard),
  ("writeVerifVector", "A", .callersGuard),
  ("writeVerifVector", "dest", .callersGuard)]

/-- the table and the extracted sites have the same keys; both directions in one evaluation by the kernel, which
    computes the UTF-8 bytes of each name (nearly all the work of comparing strings) once -/
theorem covered_matches :
    Extracted.Hazards.sites.all (fun s => covered.any fun c => c.1 == s.1 && c.2.1 == s.2) = true ∧
    covered.all (fun c => Extracted.Hazards.sites.any fun s => c.1 == s.1 && c.2.1 == s.2) = true := by
  decide +kernel

/-- **every pointer-to-first-element site of the code as it is now is covered** (a new `&x[0]` breaks this) -/
theorem covered_all : Extracted.Hazards.sites.all (fun s => covered.any fun c => c.1 == s.1 && c.2.1 == s.2) = true :=
  covered_matches.1

/-- no stale entries: everything in the table still exists in the code -/
theorem covered_exact : covered.all (fun c => Extracted.Hazards.sites.any fun s => c.1 == s.1 && c.2.1 == s.2) = true :=
  covered_matches.2

/-! ### (2) the guards imply what the sites need -/

/-- guarded lengths: passing the guard means the slice has exactly the positive length C will read -/
theorem guarded_lengths (len len2 : Int) :
    (Extracted.Guards.crypto_pubKeyBLSBLS12381_Verify_g1 len = false → len = 48) ∧
    (Extracted.Guards.crypto_VerifyBLSSignatureManyMessages_g0 len = false → len = 48) ∧
    (Extracted.Guards.crypto_SPOCKVerify_g1 len len2 = false → len = 48 ∧ len2 = 48) ∧
    (Extracted.Guards.crypto_readScalarFrStar_g0 len = false → len = 32) ∧
    (Extracted.Guards.crypto_blsBLS12381Algo_decodePublicKey_g0 len = false → len = 96) := by
  simp [Extracted.Guards.crypto_pubKeyBLSBLS12381_Verify_g1, Extracted.Guards.crypto_VerifyBLSSignatureManyMessages_g0,
    Extracted.Guards.crypto_SPOCKVerify_g1, Extracted.Guards.crypto_readScalarFrStar_g0,
    Extracted.Guards.crypto_blsBLS12381Algo_decodePublicKey_g0]

/-- non-empty lists: passing the guards means at least one element (and matching lengths) -/
theorem nonempty_lists (n m k t : Int) (hn : 0 ≤ n) :
    (Extracted.Guards.crypto_AggregateBLSSignatures_g0 n = false → 0 < n) ∧
    (Extracted.Guards.crypto_AggregateBLSPublicKeys_g0 n = false → 0 < n) ∧
    (Extracted.Guards.crypto_AggregateBLSPrivateKeys_g0 n = false → 0 < n) ∧
    (Extracted.Guards.crypto_RemoveBLSPublicKeys_g1 n = false → 0 < n) ∧
    (Extracted.Guards.crypto_VerifyBLSSignatureManyMessages_g1 n = false →
      Extracted.Guards.crypto_VerifyBLSSignatureManyMessages_g2 k m n = false → 0 < n ∧ m = n ∧ k = n) ∧
    (Extracted.Guards.crypto_BatchVerifyBLSSignaturesOneMessage_g0 n = false →
      Extracted.Guards.crypto_BatchVerifyBLSSignaturesOneMessage_g1 n m = false → 0 < n ∧ m = n) ∧
    (Extracted.Guards.crypto_BLSReconstructThresholdSignature_g1 m t = false →
      Extracted.Guards.crypto_BLSReconstructThresholdSignature_g3 n t = false → 2 ≤ n) := by
  simp [Extracted.Guards.crypto_AggregateBLSSignatures_g0, Extracted.Guards.crypto_AggregateBLSPublicKeys_g0,
    Extracted.Guards.crypto_AggregateBLSPrivateKeys_g0, Extracted.Guards.crypto_RemoveBLSPublicKeys_g1,
    Extracted.Guards.crypto_VerifyBLSSignatureManyMessages_g1, Extracted.Guards.crypto_VerifyBLSSignatureManyMessages_g2,
    Extracted.Guards.crypto_BatchVerifyBLSSignaturesOneMessage_g0, Extracted.Guards.crypto_BatchVerifyBLSSignaturesOneMessage_g1,
    Extracted.Guards.crypto_BLSReconstructThresholdSignature_g1, Extracted.Guards.crypto_BLSReconstructThresholdSignature_g3]
  omega

/-- index guards: an index that passes is a valid position -/
theorem index_guards (i n : Int) :
    (Extracted.Guards.crypto_blsThresholdSignatureInspector_validIndex_g0 i n = false → 0 ≤ i ∧ i < n) ∧
    (Extracted.Guards.crypto_JointFeldmanState_ForceDisqualify_g1 n i = false → 0 ≤ i ∧ i < n) ∧
    (Extracted.Guards.crypto_feldmanVSSstate_HandleBroadcastMsg_g1 n i = false → 0 ≤ i ∧ i < n) ∧
    (Extracted.Guards.crypto_SigningAlgorithm_String_g0 i = false → 0 ≤ i ∧ i < 4) ∧
    (Extracted.Guards.hash_HashingAlgorithm_String_g0 i = false → 0 ≤ i ∧ i < 7) := by
  simp [Extracted.Guards.crypto_blsThresholdSignatureInspector_validIndex_g0,
    Extracted.Guards.crypto_JointFeldmanState_ForceDisqualify_g1, Extracted.Guards.crypto_feldmanVSSstate_HandleBroadcastMsg_g1,
    Extracted.Guards.crypto_SigningAlgorithm_String_g0, Extracted.Guards.hash_HashingAlgorithm_String_g0]
  omega

/-- DKG sizes fit the `index = byte` conversions: participants are below 255 -/
theorem dkg_index_fits_byte (size : Int) (h : Extracted.Guards.crypto_newDKGCommon_g0 size = false) :
    2 ≤ size ∧ size ≤ 254 := by
  simp [Extracted.Guards.crypto_newDKGCommon_g0] at h
  omega

/-- **no index or slice expression has appeared since the review**: the table regenerated from the source on this
    run (per function and operand type, the number of `x[i]` / `x[a:b]` on a slice, array or string whose bound can
    fail at run time, in the three packages; `&x[0]` hand-overs, map lookups, compile-time-checked bounds and the
    index variable of a loop over the operand itself apart) is the reviewed one. A new index expression breaks this
    lemma and sends the check into its boundary search; renaming variables does not -/
theorem index_sites_exact : Extracted.Hazards.indexSites = Props.C09Audit.auditedIndexSites := rfl

end Props.C09

#print axioms Props.C09.covered_all
#print axioms Props.C09.covered_exact
#print axioms Props.C09.guarded_lengths
#print axioms Props.C09.nonempty_lists
#print axioms Props.C09.index_guards
#print axioms Props.C09.dkg_index_fits_byte
#print axioms Props.C09.index_sites_exact
