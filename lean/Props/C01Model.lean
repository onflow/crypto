import Proofs.BlsConcrete
import Props.C01
import Mathlib.LinearAlgebra.Dual.Lemmas

/-! # C01 (the abstract theorems on the groups of the executable model)

`Props.C01.verify_iff` speaks about any `PairingGroups` structure. Here the structure is the one of the executable
model (`Proofs/BlsConcrete.lean`): `E1` is the group of the curve `Model.Curve` computes in, `G1` / `G2` its `r`-torsion
(resp. that of the curve over `F_p²`), the codec is `Bls.readE1` / `Bls.writeE1`. The pairing is the only parameter:
for EVERY `ZMod r`-bilinear map on these subgroups that is non-degenerate at the generator of `G2`, verification
under the key `sk • g2` - the point `Bls.publicKeyOf sk` of the model - accepts exactly the string
`Bls.signPoint sk H`, the bytes the model's `Sign` produces and the run compares with the implementation. -/

namespace Props.C01Model
open Model Proofs.BlsConcrete Proofs.CurveGroup Proofs.CurveInst

local notation "r" => Model.Bls.r

theorem exists_nondeg {K M V : Type*} [Field K] [AddCommGroup M] [Module K M] [AddCommGroup V] [Module K V]
    (g : V) (hg : g ≠ 0) : ∃ e : M →ₗ[K] V →ₗ[K] M, ∀ s : M, e s g = 0 → s = 0 := by
  obtain ⟨φ, hφ⟩ : ∃ φ : Module.Dual K V, φ g ≠ 0 := by
    by_contra hc
    push Not at hc
    exact hg ((Module.forall_dual_apply_eq_zero_iff K g).1 hc)
  refine ⟨LinearMap.smulRightₗ φ, fun s hs => ?_⟩
  rw [LinearMap.smulRightₗ_apply] at hs
  exact (smul_eq_zero.1 hs).resolve_left hφ

/-- non-vacuity: bilinear maps that are non-degenerate at `g2` exist on these groups (a linear functional that does
    not vanish at `g2`, times the identity of `G1`) - `model_verify_iff` is not about an empty class -/
example : ∃ (e : G1 →ₗ[ZMod r] G2 →ₗ[ZMod r] G1), ∀ s : G1, e s g2 = 0 → s = 0 := exists_nondeg g2 g2_ne_zero

variable (GT : Type) [AddCommGroup GT] [Module (ZMod r) GT] (e : G1 →ₗ[ZMod r] G2 →ₗ[ZMod r] GT)
  (nd : ∀ s : G1, e s g2 = 0 → s = 0)

/-- the abstract `Sign` on the concrete groups is the model's `signPoint` -/
theorem model_sign_is_abstract_sign (sk : ZMod r) (H : Bls.P1) (hv : Valid Bls.p 0 4 H) (hG : Bls.inG1 H = true) :
    signCore (codec GT e nd) sk (mkG1 H hv hG) = Bls.signPoint sk.val H :=
  encode_smul sk H hv hG

/-- the abstract public key on the concrete groups is the model's `publicKeyOf` -/
theorem model_public_key_is_abstract_key (sk : ZMod r) :
    (show G2 from sk • (concrete GT e nd).g2).1 =
      Proofs.CurveGroup2.toPoint Bls.p (0, 0) (4, 4) (Bls.publicKeyOf sk.val) :=
  smul_g2 sk

/-- **Verify on the groups of the model accepts exactly the model's signature bytes**, whatever the pairing -/
theorem model_verify_iff (sk : ZMod r) (hsk : sk ≠ 0) (sig : Model.Bytes) (H : Bls.P1) (hv : Valid Bls.p 0 4 H)
    (hG : Bls.inG1 H = true) :
    verifyCore (codec GT e nd) (sk • (concrete GT e nd).g2) sig (mkG1 H hv hG) = true ↔
      sig = Bls.signPoint sk.val H := by
  rw [verifyCore_iff (codec GT e nd) sk hsk (g2_ne_zero) sig (mkG1 H hv hG), model_sign_is_abstract_sign]

/-- the subgroup test of the abstract setting is the model's `inG1` on decoded signatures -/
theorem model_toG1_iff (Q : Bls.P1) (hv : Valid Bls.p 0 4 Q) :
    ((concrete GT e nd).toG1 (toPoint Bls.p 0 4 Q)).isSome = Bls.inG1 Q := by
  cases hto : (concrete GT e nd).toG1 (toPoint Bls.p 0 4 Q) with
  | none =>
    cases hb : Bls.inG1 Q with
    | false => rfl
    | true =>
      have := ((concrete GT e nd).toG1_iff (toPoint Bls.p 0 4 Q) (mkG1 Q hv hb)).2 rfl
      rw [hto] at this; cases this
  | some s =>
    have hs : (show G1 from s).1 = toPoint Bls.p 0 4 Q := ((concrete GT e nd).toG1_iff _ s).1 hto
    have h0 := (mem_torsion (show G1 from s).1).1 (show G1 from s).2
    rw [hs] at h0
    rw [(inG1_iff_torsion Q hv).2 h0]
    rfl

end Props.C01Model

#print axioms Props.C01Model.model_sign_is_abstract_sign
#print axioms Props.C01Model.model_public_key_is_abstract_key
#print axioms Props.C01Model.model_verify_iff
#print axioms Props.C01Model.model_toG1_iff
