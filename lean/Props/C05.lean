import Model.Bls
import Model.Ecdsa
import Proofs.Bytes
import Proofs.E2Codec
import Proofs.EcdsaCodec
import Extracted.Consts

/-! # C05 — serialization is canonical and validating

Theorems about the byte codecs of the model (`Model.Bls`, `Model.Ecdsa`): for every byte string a
decoder either rejects it or accepts it and the encoder gives the same bytes back; accepted private keys
are exactly the 32-byte scalars in `[1, order-1]`; the compressed point codecs of BLS12-381 (E1: signatures,
E2: public keys) accept exactly the canonical encodings of reduced curve points and round-trip on all of them
(primality of `p` by a Pratt certificate, `p ≡ 3 mod 4`, completeness of the F_p and F_p² square roots, no
point with `y = 0` on either curve); the same for X9.62-compressed ECDSA public keys on P-256 and secp256k1
(no 2-torsion: `x³ - 3x + b` has no root mod p by `gcd(x^p - x, f) = 1` computed in the kernel; `-7` is not a cube). -/

namespace Props.C05
open Model

theorem readFr_ok_iff (b : Bytes) (x : Nat) :
    Bls.readFr b = .ok x ↔ b.length = 32 ∧ beNat b = x ∧ x < Bls.r := by
  unfold Bls.readFr
  split
  · simp only [reduceCtorEq, false_iff]; omega
  · split
    · simp only [reduceCtorEq, false_iff]; omega
    · simp only [Except.ok.injEq]; omega

theorem readFrStar_ok_iff (b : Bytes) (x : Nat) :
    Bls.readFrStar b = .ok x ↔ b.length = 32 ∧ beNat b = x ∧ 0 < x ∧ x < Bls.r := by
  unfold Bls.readFrStar
  split
  · next e he =>
    simp only [reduceCtorEq, false_iff]
    intro h
    have := (readFr_ok_iff b x).2 ⟨h.1, h.2.1, h.2.2.2⟩
    rw [he] at this; cases this
  · next y hy =>
    have hy' := (readFr_ok_iff b y).1 hy
    split
    · simp only [reduceCtorEq, false_iff]; omega
    · simp only [Except.ok.injEq]; omega

/-- accepted BLS private keys are exactly the 32-byte big-endian scalars in `[1, r-1]` -/
theorem bls_sk_accepts_iff (b : Bytes) (x : Nat) :
    Bls.decodePrivateKey b = some x ↔ b.length = 32 ∧ beNat b = x ∧ 0 < x ∧ x < Bls.r := by
  rw [← readFrStar_ok_iff]
  unfold Bls.decodePrivateKey
  split
  · next y hy => rw [hy, Option.some.injEq, Except.ok.injEq]
  · next e he => rw [he]; simp only [reduceCtorEq]

/-- **canonical**: whatever `DecodePrivateKey` accepts re-encodes to exactly the input bytes -/
theorem bls_sk_canonical (b : Bytes) (x : Nat) (h : Bls.decodePrivateKey b = some x) :
    Bls.writeFr x = b := by
  obtain ⟨hl, hx, _, _⟩ := (bls_sk_accepts_iff b x).1 h
  unfold Bls.writeFr
  rw [← hx, ← hl, natBE_beNat]

/-- **round trip**: every scalar in `[1, r-1]` encodes to bytes that decode back to it -/
theorem bls_sk_roundtrip (x : Nat) (h0 : 0 < x) (hr : x < Bls.r) :
    Bls.decodePrivateKey (Bls.writeFr x) = some x := by
  rw [bls_sk_accepts_iff]
  unfold Bls.writeFr
  refine ⟨natBE_length _ _, ?_, h0, hr⟩
  rw [beNat_natBE]
  apply Nat.mod_eq_of_lt
  have : Bls.r < 256 ^ 32 := by decide
  omega

theorem ecdsa_sk_accepts_iff (S : Ecdsa.CurveSpec) (b : Bytes) (d : Nat) :
    Ecdsa.decodePrivateKey S b = some d ↔ b.length = 32 ∧ beNat b = d ∧ 0 < d ∧ d < S.n := by
  unfold Ecdsa.decodePrivateKey
  split
  · simp only [reduceCtorEq, false_iff]; omega
  · simp only
    split
    · simp only [reduceCtorEq, false_iff]; omega
    · split
      · simp only [reduceCtorEq, false_iff]; omega
      · simp only [Option.some.injEq]; omega

theorem ecdsa_sk_canonical (S : Ecdsa.CurveSpec) (b : Bytes) (d : Nat)
    (h : Ecdsa.decodePrivateKey S b = some d) : natBE 32 d = b := by
  obtain ⟨hl, hx, _, _⟩ := (ecdsa_sk_accepts_iff S b d).1 h
  rw [← hx, ← hl, natBE_beNat]

/-- accepted raw public keys are exactly the reduced coordinate pairs on the curve -/
theorem ecdsa_pk_accepts_iff (S : Ecdsa.CurveSpec) (b : Bytes) (Q : Nat × Nat) :
    Ecdsa.decodePublicKey S b = some Q ↔
      b.length = 64 ∧ Q = (beNat (b.take 32), beNat (b.drop 32)) ∧ Q.1 < S.p ∧ Q.2 < S.p ∧
      Curve.onCurve S.C (some Q) = true := by
  unfold Ecdsa.decodePublicKey
  split
  · simp only [reduceCtorEq, false_iff]; omega
  · simp only
    split
    · simp only [reduceCtorEq, false_iff]
      rintro ⟨_, rfl, h1, h2, _⟩
      simp only at h1 h2
      omega
    · split
      · next hc =>
        simp only [Option.some.injEq]
        constructor
        · rintro rfl; exact ⟨by omega, rfl, by simp only; omega, by simp only; omega, hc⟩
        · rintro ⟨_, rfl, _⟩; rfl
      · next hc =>
        simp only [reduceCtorEq, false_iff]
        rintro ⟨_, rfl, _, _, h⟩
        exact hc h

/-- **canonical**: an accepted raw public key re-encodes to the input -/
theorem ecdsa_pk_canonical (S : Ecdsa.CurveSpec) (b : Bytes) (Q : Nat × Nat)
    (h : Ecdsa.decodePublicKey S b = some Q) : Ecdsa.encodePublicKey Q = b := by
  obtain ⟨hl, rfl, _, _, _⟩ := (ecdsa_pk_accepts_iff S b Q).1 h
  unfold Ecdsa.encodePublicKey
  have h1 : (b.take 32).length = 32 := by simp [hl]
  have h2 : (b.drop 32).length = 32 := by simp [hl]
  have e1 := natBE_beNat (b.take 32)
  have e2 := natBE_beNat (b.drop 32)
  rw [h1] at e1; rw [h2] at e2
  simp only [e1, e2, List.take_append_drop]

/-- **signature parsing is canonical and validating**: `E1_read_bytes` returns `P` on `b` exactly when `P` is a
    reduced point of `y² = x³ + 4` (or infinity) and `b` is its compressed serialization -/
theorem bls_sig_accepts_iff (b : Bytes) (P : Bls.P1) :
    Bls.readE1 b = .ok P ↔ (Proofs.E1Codec.Valid P ∧ Bls.writeE1 P = b) := Proofs.E1Codec.e1_accepts_iff b P

/-- accepted signature bytes re-encode to exactly the input -/
theorem bls_sig_canonical (b : Bytes) (P : Bls.P1) (h : Bls.readE1 b = .ok P) : Bls.writeE1 P = b :=
  Proofs.E1Codec.e1_canonical b P h

/-- every point the package can produce (a reduced curve point) encodes to bytes that decode back to it -/
theorem bls_sig_roundtrip (P : Bls.P1) (h : Proofs.E1Codec.Valid P) : Bls.readE1 (Bls.writeE1 P) = .ok P :=
  Proofs.E1Codec.e1_roundtrip P h

/-- the same three facts for `E2_read_bytes` / `E2_write_bytes` -/
theorem bls_e2_accepts_iff (b : Bytes) (P : Bls.P2) :
    Bls.readE2 b = .ok P ↔ (Proofs.E2Codec.Valid P ∧ Bls.writeE2 P = b) := Proofs.E2Codec.e2_accepts_iff b P

/-- **accepted BLS public keys are exactly the canonical compressed encodings of G2 elements, including the
    identity**: `DecodePublicKey` returns `P` on `b` iff `P` is a reduced curve point (or infinity) with
    `r • P = O` and `b` is its serialization -/
theorem bls_pk_accepts_iff (b : Bytes) (P : Bls.P2) :
    Bls.decodePublicKey b = some P ↔ (Proofs.E2Codec.Valid P ∧ Bls.inG2 P = true ∧ Bls.writeE2 P = b) := by
  unfold Bls.decodePublicKey
  constructor
  · intro h
    by_cases hl : b.length ≠ 96
    · rw [if_pos hl] at h; cases h
    rw [if_neg hl] at h
    cases hr : Bls.readE2 b with
    | error e => rw [hr] at h; cases h
    | ok Q =>
      rw [hr] at h
      dsimp only at h
      by_cases hg : Bls.inG2 Q = true
      · rw [if_pos hg] at h
        cases h
        exact ⟨((bls_e2_accepts_iff b P).1 hr).1, hg, ((bls_e2_accepts_iff b P).1 hr).2⟩
      · rw [if_neg hg] at h; cases h
  · rintro ⟨hv, hg, hw⟩
    have hr := (bls_e2_accepts_iff b P).2 ⟨hv, hw⟩
    have hl := Proofs.E2Codec.readE2_length b P hr
    rw [if_neg (by omega), hr]
    dsimp only
    rw [if_pos hg]

/-- an accepted public key re-encodes to exactly the input bytes, and is in G2 -/
theorem bls_pk_canonical (b : Bytes) (P : Bls.P2) (h : Bls.decodePublicKey b = some P) :
    Bls.writeE2 P = b ∧ Bls.inG2 P = true :=
  let ⟨_, hg, hw⟩ := (bls_pk_accepts_iff b P).1 h; ⟨hw, hg⟩

/-- every G2 element (the identity included) encodes to bytes that decode back to it -/
theorem bls_pk_roundtrip (P : Bls.P2) (hv : Proofs.E2Codec.Valid P) (hg : Bls.inG2 P = true) :
    Bls.decodePublicKey (Bls.writeE2 P) = some P := (bls_pk_accepts_iff _ P).2 ⟨hv, hg, rfl⟩

/-- the identity public key is the one byte string `C0 00 … 00` -/
theorem bls_pk_identity (b : Bytes) : Bls.decodePublicKey b = some none ↔ b = 0xC0 :: zeros 95 := by
  rw [bls_pk_accepts_iff]
  constructor
  · rintro ⟨_, _, hw⟩; exact hw.symm
  · intro h
    exact ⟨fun x y hxy => (nomatch hxy), by decide +kernel, h.symm⟩

/-- **accepted compressed ECDSA public keys are exactly the canonical encodings `02/03 ‖ X` of the reduced points
    of the curve** (P-256) -/
theorem ecdsa_p256_compressed_iff (b : Bytes) (Q : Nat × Nat) :
    Ecdsa.decodePublicKeyCompressed Ecdsa.p256 b = some Q ↔
      (Proofs.EcdsaCodec.Valid Ecdsa.p256 Q ∧ Ecdsa.encodePublicKeyCompressed Q = b) :=
  Proofs.EcdsaCodec.pkc_accepts_iff _ Proofs.EcdsaCodec.good_p256 b Q

/-- the same for secp256k1 -/
theorem ecdsa_k256_compressed_iff (b : Bytes) (Q : Nat × Nat) :
    Ecdsa.decodePublicKeyCompressed Ecdsa.k256 b = some Q ↔
      (Proofs.EcdsaCodec.Valid Ecdsa.k256 Q ∧ Ecdsa.encodePublicKeyCompressed Q = b) :=
  Proofs.EcdsaCodec.pkc_accepts_iff _ Proofs.EcdsaCodec.good_k256 b Q

/-- neither curve has a point with `y = 0` (no 2-torsion) -/
theorem ecdsa_no_two_torsion :
    (∀ t : ZMod Ecdsa.p256P, t ^ 3 + (Ecdsa.p256.C.a : ZMod Ecdsa.p256P) * t + (Ecdsa.p256.C.b : ZMod Ecdsa.p256P) ≠ 0) ∧
    (∀ t : ZMod Ecdsa.k256P, t ^ 3 + (Ecdsa.k256.C.a : ZMod Ecdsa.k256P) * t + (Ecdsa.k256.C.b : ZMod Ecdsa.k256P) ≠ 0) :=
  ⟨Proofs.EcdsaRoots.p256_no_root, Proofs.EcdsaRoots.k256_no_root⟩

/-! ### lengths: the decoders accept exactly one length each (tie to the constants of the code) -/

theorem bls_pk_length (b : Bytes) (h : (Bls.decodePublicKey b).isSome) : b.length = 96 := by
  unfold Bls.decodePublicKey at h
  split at h
  · simp at h
  · omega

theorem bls_sig_length (b : Bytes) (P : Bls.P1) (h : Bls.readE1 b = .ok P) : b.length = 48 :=
  Proofs.E1Codec.readE1_length b P h

theorem tie_lengths :
    Extracted.Consts.crypto_PrKeyLenBLSBLS12381 = 32 ∧ Extracted.Consts.crypto_PubKeyLenBLSBLS12381 = 96 ∧
    Extracted.Consts.crypto_SignatureLenBLSBLS12381 = 48 ∧ Extracted.Consts.crypto__Ciconst_Fr_BYTES = 32 ∧
    Extracted.Consts.crypto__Ciconst_G1_SER_BYTES = 48 ∧ Extracted.Consts.crypto__Ciconst_G2_SER_BYTES = 96 ∧
    Extracted.Consts.crypto_PrKeyLenECDSAP256 = 32 ∧ Extracted.Consts.crypto_PubKeyLenECDSAP256 = 64 ∧
    Extracted.Consts.crypto_PrKeyLenECDSASecp256k1 = 32 ∧ Extracted.Consts.crypto_PubKeyLenECDSASecp256k1 = 64 := by
  decide

/-! ### non-vacuity -/

example : Bls.decodePrivateKey (Bls.writeFr 5) = some 5 := bls_sk_roundtrip 5 (by decide) (by decide)
example : (Ecdsa.decodePublicKey Ecdsa.p256 (Ecdsa.encodePublicKey
    (0x6b17d1f2e12c4247f8bce6e563a440f277037d812deb33a0f4a13945d898c296,
     0x4fe342e2fe1a7f9b8ee7eb4a7c0f9e162bce33576b315ececbb6406837bf51f5))).isSome := by decide +kernel

end Props.C05

#print axioms Props.C05.readFrStar_ok_iff
#print axioms Props.C05.bls_sk_accepts_iff
#print axioms Props.C05.bls_sk_canonical
#print axioms Props.C05.bls_sk_roundtrip
#print axioms Props.C05.ecdsa_sk_accepts_iff
#print axioms Props.C05.ecdsa_sk_canonical
#print axioms Props.C05.ecdsa_pk_accepts_iff
#print axioms Props.C05.ecdsa_pk_canonical
#print axioms Props.C05.bls_pk_length
#print axioms Props.C05.bls_sig_length
#print axioms Props.C05.tie_lengths
#print axioms Props.C05.bls_sig_accepts_iff
#print axioms Props.C05.bls_sig_canonical
#print axioms Props.C05.bls_sig_roundtrip
#print axioms Props.C05.bls_e2_accepts_iff
#print axioms Props.C05.bls_pk_accepts_iff
#print axioms Props.C05.bls_pk_canonical
#print axioms Props.C05.bls_pk_roundtrip
#print axioms Props.C05.bls_pk_identity
#print axioms Props.C05.ecdsa_p256_compressed_iff
#print axioms Props.C05.ecdsa_k256_compressed_iff
#print axioms Props.C05.ecdsa_no_two_torsion
