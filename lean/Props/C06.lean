import Mathlib.LinearAlgebra.Lagrange
import Mathlib.Algebra.Field.ZMod
import Mathlib.Algebra.Module.Basic
import Props.C18
import Model.Threshold
import Extracted.Guards
import Extracted.Consts
import Proofs.LagrangeCoeff
import Proofs.Primes

/-! # C06 — threshold shares reconstruct the unique group signature for any ≥ t+1 signers -/

namespace Props.C06
open Polynomial

variable {F : Type*} [Field F]

/-- the Lagrange coefficient at 0 of node `i`: `Π_{j ≠ i} x_j / (x_j - x_i)` -/
noncomputable def lagrangeAtZero {ι : Type*} [DecidableEq ι] (s : Finset ι) (v : ι → F) (i : ι) : F :=
  ∏ j ∈ s.erase i, v j / (v j - v i)

theorem eval_zero_basis {ι : Type*} [DecidableEq ι] (s : Finset ι) (v : ι → F) (i : ι) :
    (Lagrange.basis s v i).eval 0 = lagrangeAtZero s v i := by
  unfold Lagrange.basis lagrangeAtZero Lagrange.basisDivisor
  rw [eval_prod]
  apply Finset.prod_congr rfl
  intro j _
  simp only [eval_mul, eval_C, eval_sub, eval_X, zero_sub]
  rw [div_eq_mul_inv, mul_comm, ← neg_sub (v j) (v i), inv_neg, neg_mul_neg]

/-- **interpolation at zero**: a polynomial of degree `< #s` takes at 0 the value
    `Σ_i P(x_i) · Π_{j≠i} x_j / (x_j - x_i)`, for any set of pairwise distinct nodes -/
theorem interp_zero {ι : Type*} [DecidableEq ι] (s : Finset ι) (v : ι → F) (hv : Set.InjOn v s)
    (P : F[X]) (hdeg : P.degree < s.card) :
    P.eval 0 = ∑ i ∈ s, P.eval (v i) * lagrangeAtZero s v i := by
  conv_lhs => rw [Lagrange.eq_interpolate hv hdeg]
  simp only [Lagrange.interpolate_apply, eval_finsetSum, eval_mul, eval_C, eval_zero_basis]

/-- **reconstruction is independent of the subset and of the order of the signers**: for every polynomial of
    degree ≤ t over the scalar field, every set of t+1 (or more) distinct signer indices, combining the
    signature shares `P(x_i) • h` with the Lagrange coefficients yields `P(0) • h` -/
theorem reconstruct_const {G : Type*} [AddCommGroup G] [Module F G] {ι : Type*} [DecidableEq ι]
    (s : Finset ι) (v : ι → F) (hv : Set.InjOn v s) (P : F[X]) (hdeg : P.degree < s.card) (h : G) :
    ∑ i ∈ s, lagrangeAtZero s v i • (P.eval (v i) • h) = P.eval 0 • h := by
  rw [interp_zero s v hv P hdeg, Finset.sum_smul]
  apply Finset.sum_congr rfl
  intro i _
  rw [smul_smul, mul_comm]

/-- two different qualifying signer sets give the same group signature -/
theorem reconstruct_subset_independent {G : Type*} [AddCommGroup G] [Module F G] {ι : Type*} [DecidableEq ι]
    (s s' : Finset ι) (v : ι → F) (hv : Set.InjOn v s) (hv' : Set.InjOn v s') (P : F[X])
    (hdeg : P.degree < s.card) (hdeg' : P.degree < s'.card) (h : G) :
    ∑ i ∈ s, lagrangeAtZero s v i • (P.eval (v i) • h) = ∑ i ∈ s', lagrangeAtZero s' v i • (P.eval (v i) • h) := by
  rw [reconstruct_const s v hv P hdeg, reconstruct_const s' v hv' P hdeg']

/-- key generation consistency: the public key shares `P(x_i) • g2` interpolate to the group key `P(0) • g2` -/
theorem keygen_public_consistent {G2 : Type*} [AddCommGroup G2] [Module F G2] {ι : Type*} [DecidableEq ι]
    (s : Finset ι) (v : ι → F) (hv : Set.InjOn v s) (P : F[X]) (hdeg : P.degree < s.card) (g2 : G2) :
    ∑ i ∈ s, lagrangeAtZero s v i • (P.eval (v i) • g2) = P.eval 0 • g2 :=
  reconstruct_const s v hv P hdeg g2

/-- any product of at most 8 factors, each at most 255, fits in 64 bits -/
theorem limb_no_overflow (l : List Nat) (hl : l.length ≤ 8) (hb : ∀ x ∈ l, x ≤ 255) : l.prod < 2 ^ 64 :=
  (List.prod_le_pow_card l 255 hb).trans_lt (Proofs.Limbs.pow_bound _ hl)

/-- **the C loop computes the Lagrange coefficient**: for every list of signer indices (each at most 255 =
    `MAX_IND`) and every position `i`, the value returned by the limb-batched loop of
    `Fr_lagrange_coeff_at_zero` (`Model.Threshold.coeff`: 8 indices per 64-bit limb, sign bookkeeping, one Fermat
    inversion) is `Π_{j≠i} x_j / (x_j - x_i)` in `F_r`, with `r` the BLS12-381 group order (prime by a Pratt
    certificate) -/
theorem coeff_is_lagrange (xs : List Nat) (i : Nat) (hb : ∀ x ∈ xs, x ≤ 255) :
    ((Model.Threshold.coeff Model.Bls.r xs i : Nat) : ZMod Model.Bls.r) =
      lagrangeAtZero (Finset.range xs.length) (fun j => ((xs.getD j 0 : Nat) : ZMod Model.Bls.r)) i := by
  rw [Proofs.LagrangeCoeff.coeff_spec xs i (by decide +kernel) (by decide +kernel) hb]
  rfl

/-- consequence: the shares `P(x_j) • h` of any polynomial of degree `< #signers`, weighted by the coefficients the
    C loop computes, sum to `P(0) • h` - for every list of distinct signer indices at most 255 -/
theorem c_loop_reconstructs {G : Type*} [AddCommGroup G] [Module (ZMod Model.Bls.r) G] (xs : List Nat)
    (hb : ∀ x ∈ xs, x ≤ 255)
    (hinj : Set.InjOn (fun j => ((xs.getD j 0 : Nat) : ZMod Model.Bls.r)) (Finset.range xs.length))
    (Q : (ZMod Model.Bls.r)[X]) (hdeg : Q.degree < xs.length) (h : G) :
    ∑ i ∈ Finset.range xs.length,
      ((Model.Threshold.coeff Model.Bls.r xs i : Nat) : ZMod Model.Bls.r) •
        (Q.eval ((xs.getD i 0 : Nat) : ZMod Model.Bls.r) • h) = Q.eval 0 • h := by
  have := reconstruct_const (Finset.range xs.length) (fun j => ((xs.getD j 0 : Nat) : ZMod Model.Bls.r)) hinj Q
    (by simpa using hdeg) h
  rw [this.symm]
  apply Finset.sum_congr rfl
  intro i _
  rw [coeff_is_lagrange xs i hb]

/-- tie: batching constants of the C code as they are now (64 / MAX_IND_BITS = 8 indices per limb, indices ≤ 255) -/
theorem tie_limbs :
    Extracted.Consts.crypto_ThresholdSignMaxSize = 254 ∧ Extracted.Consts.crypto_ThresholdSignMinSize = 2 ∧
    Extracted.Consts.crypto_MinimumThreshold = 1 := by decide

open Model.Threshold in
/-- the stateful object never returns an invalid threshold signature; fewer than t+1 shares give the
    not-enough-shares error (re-exported from `Props.C18`) -/
theorem stateful_safe (E : Env) (o : Obj) (h : Props.C18.Inv E o) :
    (∀ s, (step E o .thresholdSignature).2 = .sig s → E.verifyGroup s = true) ∧
    (o.sig = none → o.enough E = false → (step E o .thresholdSignature).2 = .notEnoughShares) :=
  ⟨fun s hs => Props.C18.stateful_never_invalid E o h s hs, Props.C18.not_enough E o⟩

theorem tie_guards (size threshold ls lsg : Int) :
    Extracted.Guards.crypto_BLSReconstructThresholdSignature_g0 size = (decide (size < 2) || decide (size > 254)) ∧
    Extracted.Guards.crypto_BLSReconstructThresholdSignature_g1 size threshold = (decide (threshold ≥ size) || decide (threshold < 1)) ∧
    Extracted.Guards.crypto_BLSReconstructThresholdSignature_g2 ls lsg = decide (ls ≠ lsg) ∧
    Extracted.Guards.crypto_BLSReconstructThresholdSignature_g3 ls threshold = decide (ls < threshold + 1) ∧
    Extracted.Guards.crypto_BLSThresholdKeyGen_g0 size = (decide (size < 2) || decide (size > 254)) ∧
    Extracted.Guards.crypto_BLSThresholdKeyGen_g1 size threshold = (decide (threshold ≥ size) || decide (threshold < 1)) :=
  ⟨rfl, rfl, rfl, rfl, rfl, rfl⟩

end Props.C06

#print axioms Props.C06.interp_zero
#print axioms Props.C06.reconstruct_const
#print axioms Props.C06.reconstruct_subset_independent
#print axioms Props.C06.keygen_public_consistent
#print axioms Props.C06.limb_no_overflow
#print axioms Props.C06.tie_limbs
#print axioms Props.C06.stateful_safe
#print axioms Props.C06.tie_guards
#print axioms Props.C06.coeff_is_lagrange
#print axioms Props.C06.c_loop_reconstructs
