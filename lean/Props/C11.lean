import Model.Ecdsa
import Proofs.AbsEcdsa
import Extracted.Guards
import Extracted.Consts

/-! # C11 — ECDSA verification is exact on P-256 and secp256k1

Decision-logic theorems about `Model.Ecdsa.verifyHash` / `formatCheck` (for every curve parameter set,
every key, hash and signature string), then the group-level facts (twin, sign ⇒ verify) over an abstract group
of prime order (`Proofs/AbsEcdsa.lean`). -/

namespace Props.C11
open Model Model.Ecdsa

/-- `SignatureFormatCheck` false ⇒ `Verify` false, for every key and hash -/
theorem format_false_verify_false (S : CurveSpec) (Q : Nat × Nat) (h sig : Bytes)
    (hf : formatCheck S sig = false) : verifyHash S Q h sig = false := by
  unfold formatCheck at hf
  unfold verifyHash
  split
  · rfl
  · next hl =>
    rw [if_neg hl] at hf
    simp only [Bool.and_eq_false_iff, Bool.not_eq_false', decide_eq_true_eq] at hf
    exact if_pos (by omega)

/-- a signature that verifies is 64 bytes `r ‖ s` with `1 ≤ r, s < n` -/
theorem verify_true_format (S : CurveSpec) (Q : Nat × Nat) (h sig : Bytes)
    (hv : verifyHash S Q h sig = true) :
    sig.length = 64 ∧ 0 < beNat (sig.take 32) ∧ beNat (sig.take 32) < S.n ∧
    0 < beNat (sig.drop 32) ∧ beNat (sig.drop 32) < S.n := by
  unfold verifyHash at hv
  split at hv
  · cases hv
  · next hl =>
    simp only at hv
    split at hv
    · cases hv
    · next hrs => omega

/-- only the leftmost 32 bytes of the hasher output enter the equation -/
theorem verify_uses_leftmost_256_bits (S : CurveSpec) (Q : Nat × Nat) (h h' sig : Bytes)
    (hh : h.take 32 = h'.take 32) : verifyHash S Q h sig = verifyHash S Q h' sig := by
  unfold verifyHash
  rw [hh]

/-- the hasher guards of `Sign` / `Verify` as the code has them now: nil ⇒ error, size < 32 ⇒ error -/
theorem tie_hasher_guard (size nLen : Int) (hn : nLen = 32) :
    Extracted.Guards.crypto_pubKeyECDSA_Verify_g1 size nLen = decide (size < 32) ∧
    Extracted.Guards.crypto_prKeyECDSA_Sign_g1 size nLen = decide (size < 32) ∧
    Extracted.Guards.crypto_pubKeyECDSA_Verify_g0 true = true ∧
    Extracted.Guards.crypto_prKeyECDSA_Sign_g0 true = true := by
  subst hn
  simp [Extracted.Guards.crypto_pubKeyECDSA_Verify_g1, Extracted.Guards.crypto_prKeyECDSA_Sign_g1,
    Extracted.Guards.crypto_pubKeyECDSA_Verify_g0, Extracted.Guards.crypto_prKeyECDSA_Sign_g0]

/-- the length guards as the code has them now -/
theorem tie_length_guard (len nLen : Int) (hn : nLen = 32) :
    Extracted.Guards.crypto_pubKeyECDSA_verifyHash_g0 len nLen = decide (len ≠ 64) ∧
    Extracted.Guards.crypto_ecdsaAlgo_signatureFormatCheck_g0 len nLen = decide (len ≠ 64) := by
  subst hn
  simp [Extracted.Guards.crypto_pubKeyECDSA_verifyHash_g0, Extracted.Guards.crypto_ecdsaAlgo_signatureFormatCheck_g0]

/-! ### group-level facts (abstract group of prime order `n`, `xc (-P) = xc P`) -/

/-- the only other signature sharing `r` that verifies is the twin `(r, n - s)` -/
theorem verify_twin {n : ℕ} [Fact n.Prime] (E : EcGroup n) (Q : E.G) (e r s : ZMod n) :
    ecVerify E Q e r s ↔ ecVerify E Q e r (-s) := ecVerify_twin E Q e r s

/-- every signature made with a non-zero nonce (and non-zero `r`, `s`, as `Sign` guarantees by retrying) verifies -/
theorem sign_verify {n : ℕ} [Fact n.Prime] (E : EcGroup n) (d k e : ZMod n) (hk : k ≠ 0)
    (hr : E.xc (k • E.g) ≠ 0) (hs : k⁻¹ * (e + E.xc (k • E.g) * d) ≠ 0) :
    ecVerify E (d • E.g) e (E.xc (k • E.g)) (k⁻¹ * (e + E.xc (k • E.g) * d)) :=
  ec_sign_verify E d k e hk hr hs

/-! non-vacuity: an honest signature verifies in the model (P-256, d = 12345, k = 999) -/
example : (match publicKeyOf p256 12345, signWith p256 12345 999 (zeros 32) with
    | some Q, some sig => verifyHash p256 Q (zeros 32) sig
    | _, _ => false) = true := by decide +kernel

end Props.C11

#print axioms Props.C11.format_false_verify_false
#print axioms Props.C11.verify_true_format
#print axioms Props.C11.verify_uses_leftmost_256_bits
#print axioms Props.C11.tie_hasher_guard
#print axioms Props.C11.tie_length_guard
#print axioms Props.C11.verify_twin
#print axioms Props.C11.sign_verify
