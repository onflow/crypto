import Model.KeccakF
import Extracted.Consts

/-! # C20 — results do not depend on the build configuration

The property is decided by translation validation (one transcript per build configuration, compared with the model
and with each other). What *can* be proved at the level of the repository's own Go code is the equivalence of the
two configuration-specific pairs of helpers of `hash/`: `xorIn` / `copyOut` in `xor_generic.go` (build tag
`purego`, or a non-amd64/386/ppc64le target) and in `xor_unaligned.go` (default). The unaligned `xorIn` is
unrolled for 13 lanes plus 4 more "if n >= 136": it agrees with the generic loop exactly for the two rates the
package uses (104 and 136, taken from the regenerated constants), and for no other rate; the unaligned `copyOut`
copies bytes, the generic one whole lanes: they agree for output lengths that are multiples of 8 (32 and 48 here).
Both agree with the model's `xorBlock` / `extract`, which is what the sponge theorems of C13 are about. The
assembly permutation, BLST's ADX/portable paths and cgo stay outside any model (see DESIGN.md section 6). -/

namespace Props.C20
open Model Model.KeccakF

/-- lane `i` of the buffer: `binary.LittleEndian.Uint64(buf[8*i:])`, resp. `bw[i]` of the unaligned view -/
def lane (buf : Bytes) (i : Nat) : UInt64 := leLane ((buf.drop (8 * i)).take 8)

/-- `xorIn` of `xor_generic.go`: `n := len(buf) / 8; for i := range n { d.a[i] ^= LittleEndian.Uint64(buf); buf = buf[8:] }` -/
def xorInGeneric (a : State) (buf : Bytes) : State :=
  (List.range (buf.length / 8)).foldl (fun a i => xorLane a i (lane buf i)) a

/-- `xorIn` of `xor_unaligned.go`: lanes 0..12 unconditionally, lanes 13..16 `if n >= 136` -/
def xorInUnaligned (a : State) (buf : Bytes) : State :=
  let a := (List.range 13).foldl (fun a i => xorLane a i (lane buf i)) a
  if buf.length ≥ 136 then [13, 14, 15, 16].foldl (fun a i => xorLane a i (lane buf i)) a else a

/-- `range 17` is split into `range 13 ++ [13, 14, 15, 16]` and the fold with it; `rfl` on the two folds over the symbolic
    buffer would make the checker evaluate them lane by lane -/
theorem xorIn_variants_eq_of_length (a : State) (buf : Bytes) (h : buf.length = 104 ∨ buf.length = 136) :
    xorInGeneric a buf = xorInUnaligned a buf := by
  unfold xorInGeneric xorInUnaligned
  rcases h with hl | hl
  · have hn : ¬ 104 ≥ 136 := by omega
    rw [hl, if_neg hn]
  · have e : List.range (136 / 8) = List.range 13 ++ [13, 14, 15, 16] := by decide
    have hn : 136 ≥ 136 := Nat.le_refl _
    rw [hl, if_pos hn, e, List.foldl_append]

/-- **the two `xorIn` variants agree on every block of one of the two rates the package uses** -/
theorem xorIn_variants_eq (a : State) (buf : Bytes)
    (h : (buf.length : Int) = Extracted.Consts.hash_rateSHA3_384 ∨ (buf.length : Int) = Extracted.Consts.hash_rateSHA3_256 ∨
      (buf.length : Int) = Extracted.Consts.hash_rateKeccak_256) :
    xorInGeneric a buf = xorInUnaligned a buf := by
  apply xorIn_variants_eq_of_length
  unfold Extracted.Consts.hash_rateSHA3_384 Extracted.Consts.hash_rateSHA3_256 Extracted.Consts.hash_rateKeccak_256 at h
  omega

/-- the unrolled variant is *not* a general `xorIn`: for the cSHAKE128 rate 168 it would drop four lanes (the
    reason KMAC128 goes through `golang.org/x/crypto/sha3` and not through this sponge) -/
example : xorInGeneric zeroState (List.replicate 168 1) ≠ xorInUnaligned zeroState (List.replicate 168 1) := by
  decide +kernel

/-- every rate of the package's sponges is at most `maxRate`, the size of the storage buffer the unaligned view
    is cast from, and the smallest holds the 13 lanes `xor_unaligned.go` reads whatever the length -/
theorem rates_within_storage :
    Extracted.Consts.hash_rateSHA3_384 ≤ Extracted.Consts.hash_maxRate ∧ Extracted.Consts.hash_rateSHA3_256 ≤ Extracted.Consts.hash_maxRate ∧
    Extracted.Consts.hash_rateKeccak_256 ≤ Extracted.Consts.hash_maxRate ∧ Extracted.Consts.hash_rateSHA3_384 ≥ 8 * 13 := by
  decide

theorem xorLanes_fold (n : Nat) : ∀ (bs : Bytes) (_ : bs.length = 8 * n) (a : State) (i : Nat),
    xorLanes a i bs = (List.range n).foldl (fun a j => xorLane a (i + j) (leLane ((bs.drop (8 * j)).take 8))) a := by
  induction n with
  | zero =>
    intro bs h a i
    have : bs = [] := List.eq_nil_of_length_eq_zero (by omega)
    subst this; rfl
  | succ n ih =>
    intro bs h a i
    match bs, h with
    | b0 :: b1 :: b2 :: b3 :: b4 :: b5 :: b6 :: b7 :: rest, h =>
      have hr : rest.length = 8 * n := by simp only [List.length_cons] at h; omega
      show xorLanes (xorLane a i (leLane [b0, b1, b2, b3, b4, b5, b6, b7])) (i + 1) rest = _
      rw [ih rest hr, List.range_succ_eq_map, List.foldl_cons, List.foldl_map]
      simp only [Nat.mul_zero, List.drop_zero, Nat.add_zero]
      congr 1
      funext a' j
      have e1 : 8 * (j + 1) = 8 + 8 * j := by omega
      have e2 : i + (j + 1) = i + 1 + j := by omega
      rw [e1, e2, ← List.drop_drop]
      rfl

/-- the generic `xorIn` is the model's `xorBlock` on every buffer whose length is a multiple of 8 -/
theorem xorInGeneric_eq_model (a : State) (buf : Bytes) (n : Nat) (h : buf.length = 8 * n) :
    xorInGeneric a buf = xorBlock a buf := by
  unfold xorInGeneric xorBlock lane
  rw [xorLanes_fold n buf h a 0, h]
  have : 8 * n / 8 = n := by omega
  rw [this]
  congr 1
  funext a' j
  rw [Nat.zero_add]

/-- hence so is the unaligned one, for the package's rates -/
theorem xorInUnaligned_eq_model (a : State) (buf : Bytes) (h : buf.length = 104 ∨ buf.length = 136) :
    xorInUnaligned a buf = xorBlock a buf := by
  rw [← xorIn_variants_eq_of_length a buf h]
  rcases h with hl | hl
  · exact xorInGeneric_eq_model a buf 13 (by omega)
  · exact xorInGeneric_eq_model a buf 17 (by omega)

/-- `copyOut` of `xor_generic.go`: whole lanes while at least 8 bytes of the output remain -/
def copyOutGeneric (a : State) (n : Nat) : Bytes := (a.toList.take (n / 8)).flatMap laneBytes

/-- `copyOut` of `xor_unaligned.go`: `copy(buf, ab[:])` on the little-endian byte image of the state -/
def copyOutUnaligned (a : State) (n : Nat) : Bytes := (stateBytes a).take n

theorem flatMap_take_lanes (l : List UInt64) (k : Nat) : (l.flatMap laneBytes).take (8 * k) = (l.take k).flatMap laneBytes := by
  induction l generalizing k with
  | nil => simp
  | cons w t ih =>
    cases k with
    | zero => simp
    | succ k =>
      have hlen : (laneBytes w).length = 8 := rfl
      rw [List.flatMap_cons, List.take_succ_cons, List.flatMap_cons]
      have : 8 * (k + 1) = (laneBytes w).length + 8 * k := by rw [hlen]; omega
      rw [this, List.take_length_add_append, ih]

/-- **the two `copyOut` variants agree on every output length that is a multiple of 8** (the digests are 32 and 48
    bytes long); both are the model's `extract` -/
theorem copyOut_variants_eq (a : State) (n : Nat) (h : n % 8 = 0) :
    copyOutGeneric a n = copyOutUnaligned a n ∧ copyOutUnaligned a n = extract a n := by
  refine ⟨?_, rfl⟩
  unfold copyOutGeneric copyOutUnaligned stateBytes
  have : n = 8 * (n / 8) := by omega
  rw [this, flatMap_take_lanes]
  congr 2
  omega

/-- the digest lengths of the package's sponges are multiples of 8 (regenerated constants) -/
theorem digest_lengths_whole_lanes :
    Extracted.Consts.hash_HashLenSHA3_256 % 8 = 0 ∧ Extracted.Consts.hash_HashLenSHA3_384 % 8 = 0 ∧ Extracted.Consts.hash_HashLenKeccak_256 % 8 = 0 := by
  decide

/-- and for a length that is not a multiple of 8 they would differ (the generic one leaves the tail untouched) -/
example : copyOutGeneric zeroState 12 ≠ copyOutUnaligned zeroState 12 := by decide +kernel

/-- the model's transcript is a function of the request lines only: there is no configuration parameter anywhere in
    `Model/` (trivially true, stated because the decision procedure of this property compares every configuration
    with this one function) -/
theorem model_has_no_configuration (f : String → String) (l1 l2 : List String) (h : l1 = l2) : l1.map f = l2.map f := by
  rw [h]

end Props.C20

#print axioms Props.C20.xorIn_variants_eq
#print axioms Props.C20.rates_within_storage
#print axioms Props.C20.xorInGeneric_eq_model
#print axioms Props.C20.xorInUnaligned_eq_model
#print axioms Props.C20.copyOut_variants_eq
#print axioms Props.C20.digest_lengths_whole_lanes
#print axioms Props.C20.model_has_no_configuration
