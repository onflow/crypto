import Model.Prg
import Proofs.Prg
import Proofs.Uniform
import Proofs.FisherYates
import Proofs.FisherYatesSurj

/-! # C15 — sampling helpers are in range, valid and exactly uniform in the PRG's bits

Theorems about the model of `random/rand.go` (`Model.Prg.uintN`, `permutation`, `subPermutation`,
`samples`, `shuffle`) for an arbitrary keystream block function. -/

namespace Props.C15
open Model Model.Prg

variable (blk : Nat → Bytes)

/-! ### `UintN`: range and exact uniformity

`UintN(n)` repeats *attempts*; an attempt reads `size` fresh bytes, forms a candidate and accepts it when it is
`≤ n-1`. (a) the candidate is the number of the fresh bytes modulo `2^k` (`k` the bit length of `n-1`,
`k ≤ 8·size`): the stale bytes of the scratch buffer never matter; (b) over the `256^size` equally likely byte
strings every candidate value `< 2^k` occurs exactly `2^(8·size-k)` times - in particular every value `< n`
equally often; (c) the function returns the candidate of the first accepted attempt. Hence every value of
`[0, n)` has exactly the same probability. -/

/-- (a) + parameters: mask and byte size computed by the code from `n` -/
theorem uintN_candidate (n : Nat) (hn : 0 < n) (h64 : n - 1 < 2 ^ 64) :
    ∃ k, maskOf 65 (n - 1) 0 = 2 ^ k - 1 ∧ n - 1 < 2 ^ k ∧ k ≤ 8 * byteSize 9 (n - 1) ∧
      ∀ bytes stale : Bytes, bytes.length = byteSize 9 (n - 1) →
        leNat (bytes ++ stale) &&& maskOf 65 (n - 1) 0 = attempt k (leNat bytes) := by
  obtain ⟨k, h1, h2, h3⟩ := uintN_params (n - 1) h64
  exact ⟨k, h1, h2, h3, fun bytes stale hl => h1 ▸ candidate_eq bytes stale _ k hl h3⟩

/-- (b) every value in range is produced by exactly the same number of source byte strings -/
theorem uintN_attempt_uniform (size k v v' : ℕ) (hk : k ≤ 8 * size) (hv : v < 2 ^ k) (hv' : v' < 2 ^ k) :
    ((Finset.range (256 ^ size)).filter (fun x => attempt k x = v)).card = 2 ^ (8 * size - k) ∧
    ((Finset.range (256 ^ size)).filter (fun x => attempt k x = v)).card =
      ((Finset.range (256 ^ size)).filter (fun x => attempt k x = v')).card :=
  ⟨attempt_uniform size k v hk hv, (attempt_uniform size k v hk hv).trans (attempt_uniform size k v' hk hv').symm⟩

/-- one attempt of the loop: the new state and the candidate -/
def cand (max size mask : Nat) (s : State) : State × Nat :=
  let r := read blk s size
  let ubuf := r.2 ++ r.1.ubuf.drop size
  ({ r.1 with ubuf := ubuf }, leNat ubuf &&& mask)

/-- `FirstAccept s s' v`: the first accepted attempt from state `s` on has candidate `v` and leaves state `s'` -/
inductive FirstAccept (max size mask : Nat) : State → State → Nat → Prop
  | hit (s) : (cand blk max size mask s).2 ≤ max →
      FirstAccept max size mask s (cand blk max size mask s).1 (cand blk max size mask s).2
  | miss (s s' v) : ¬ (cand blk max size mask s).2 ≤ max →
      FirstAccept max size mask (cand blk max size mask s).1 s' v → FirstAccept max size mask s s' v

/-- (c) the loop returns the candidate of the first accepted attempt -/
theorem uintNLoop_first_accept (max size mask : Nat) : ∀ (fuel : Nat) (s s' : State) (v : Nat),
    uintNLoop blk max size mask fuel s = some (s', v) → FirstAccept blk max size mask s s' v := by
  intro fuel
  induction fuel with
  | zero => intro s s' v h; cases h
  | succ f ih =>
    intro s s' v h
    simp only [uintNLoop] at h
    split at h
    · next hle =>
      cases h
      exact FirstAccept.hit s hle
    · next hgt =>
      exact FirstAccept.miss s s' v hgt (ih _ _ _ h)

theorem FirstAccept.le {max size mask : Nat} {s s' : State} {v : Nat} (h : FirstAccept blk max size mask s s' v) :
    v ≤ max := by
  induction h with
  | hit s hle => exact hle
  | miss _ _ _ _ _ ih => exact ih

/-- **`UintN(n)` lies in `[0, n)`** whenever it returns (every `n > 0`, every seed, every state). -/
theorem uintN_lt (fuel : Nat) (s s' : State) (n v : Nat) (h : uintN blk fuel s n = some (s', v)) :
    v < n := by
  unfold uintN at h
  split at h
  · cases h
  · have := (uintNLoop_first_accept blk _ _ _ _ _ _ _ h).le
    omega

/-- `UintN(0)` is the documented panic: the model does not return -/
theorem uintN_zero (fuel : Nat) (s : State) : uintN blk fuel s 0 = none := if_pos rfl

/-! ### argument errors: negative or inconsistent sizes are errors and leave the generator untouched -/

/-- the two guards in front of `Samples` and `SubPermutation` -/
theorem guards_err {α : Type} {p q : Prop} [Decidable p] [Decidable q] (h : p ∨ q) (a b : α) :
    (if p then a else if q then a else b) = a := by
  split
  · rfl
  · next hp => rw [if_pos (h.resolve_left hp)]

theorem samples_errors (fuel : Nat) (s : State) (n m : Int) (h : m < 0 ∨ n < m) :
    samples blk fuel s n m = (s, .err) := guards_err h _ _

theorem shuffle_errors (fuel : Nat) (s : State) (n : Int) (h : n < 0) :
    shuffle blk fuel s n = (s, .err) := if_pos h

theorem permutation_errors (fuel : Nat) (s : State) (n : Int) (h : n < 0) :
    permutation blk fuel s n = (s, .err) := if_pos h

theorem subPermutation_errors (fuel : Nat) (s : State) (n m : Int) (h : m < 0 ∨ n < m) :
    subPermutation blk fuel s n m = (s, .err) := guards_err h _ _

/-! ### `Permutation`: inside-out Fisher–Yates on the vector of its draws, a bijection onto the arrangements -/

open Proofs.FisherYates in
/-- the loop of `Permutation` is the pure inside-out Fisher–Yates `run` on the vector of its successive draws
    `j_i = UintN(i+1)`, each `≤ i` -/
theorem permLoop_run (fuel : Nat) : ∀ (k i : Nat) (s s' : State) (items out : List Nat),
    permLoop blk fuel k i s items = some (s', out) →
    ∃ js : List Nat, js.length = k ∧ Valid js i ∧ out = run js i items := by
  intro k
  induction k with
  | zero =>
    intro i s s' items out h
    cases h
    exact ⟨[], rfl, trivial, rfl⟩
  | succ k ih =>
    intro i s s' items out h
    simp only [permLoop] at h
    split at h
    · cases h
    · next s1 j hu =>
      obtain ⟨js, hl, hv, ho⟩ := ih (i + 1) s1 s' _ out h
      exact ⟨j :: js, congrArg Nat.succ hl, ⟨Nat.le_of_lt_succ (uintN_lt blk _ _ _ _ _ hu), hv⟩, ho⟩

open Proofs.FisherYates in
/-- `Permutation(n)` returns `run js 0 [0,…,0]` for the vector `js` of its `n` draws -/
theorem permutation_run (fuel : Nat) (s s' : State) (n : Int) (out : List Nat)
    (h : permutation blk fuel s n = (s', .ok out)) :
    ∃ js : List Nat, js.length = n.toNat ∧ Valid js 0 ∧ out = run js 0 (List.replicate n.toNat 0) := by
  unfold permutation at h
  split at h; · cases h
  split at h
  · next s2 items hrec =>
    cases h
    exact permLoop_run blk fuel n.toNat 0 s s' _ out hrec
  · cases h

open Proofs.FisherYates in
/-- **`Permutation(n)` is a permutation of `0..n-1`** for every `n ≥ 0` and every generator state. -/
theorem permutation_perm (fuel : Nat) (s s' : State) (n : Int) (out : List Nat)
    (h : permutation blk fuel s n = (s', .ok out)) :
    0 ≤ n ∧ out.Perm (List.range n.toNat) := by
  refine ⟨Int.not_lt.1 fun hn => ?_, ?_⟩
  · rw [permutation_errors blk fuel s n hn] at h
    cases h
  · obtain ⟨js, hl, hv, rfl⟩ := permutation_run blk fuel s s' n out h
    have := run_pinv_init n.toNat js hv hl.le
    rwa [hl, pinv_perm] at this

/-- `SubPermutation(n, m)`: the first `m` entries of a permutation of `0..n-1` (hence distinct, in range) -/
theorem subPermutation_prefix (fuel : Nat) (s s' : State) (n m : Int) (out : List Nat)
    (h : subPermutation blk fuel s n m = (s', .ok out)) :
    0 ≤ m ∧ m ≤ n ∧ ∃ full : List Nat, full.Perm (List.range n.toNat) ∧ out = full.take m.toNat := by
  unfold subPermutation at h
  split at h; · cases h
  split at h; · cases h
  split at h
  · next s2 items hp =>
    cases h
    exact ⟨by omega, by omega, items, (permutation_perm blk fuel s s' n items hp).2, rfl⟩
  · next s2 r hne _ =>
    cases h
    exact (hne out rfl).elim

open Proofs.FisherYates in
/-- **distinct choice vectors give distinct permutations**: the map from the `n!` valid choice vectors
    (`j_i ≤ i`) to the permutations of `0..n-1` is injective, hence (equal finite cardinalities, `permutation_perm`)
    a bijection: if the draws are uniform and independent, every permutation has probability `1/n!` -/
theorem permutation_choices_injective (n : Nat) (js js' : List Nat) (hl : js.length = n) (hl' : js'.length = n)
    (hv : Valid js 0) (hv' : Valid js' 0)
    (h : run js 0 (List.replicate n 0) = run js' 0 (List.replicate n 0)) : js = js' := by
  obtain ⟨js0, -, huniq⟩ := run_bijective n n _ (Nat.le_refl n) (hl' ▸ run_pinv_init n js' hv' hl'.le)
  rw [huniq js hl hv h, huniq js' hl' hv' rfl]

open Proofs.FisherYates in
/-- **every permutation is the outcome of exactly one choice vector**: for every arrangement `p` of `0..n-1` there is
    one and only one vector of draws `j_0 ≤ 0, j_1 ≤ 1, …, j_{n-1} ≤ n-1` on which the loop of `Permutation` returns
    `p` (`Proofs/FisherYatesSurj.lean`: the last step can be undone - the position of the value `i` is the draw - and
    the state before it still satisfies the loop invariant). The `n!` outcomes are therefore in one-to-one
    correspondence with the `n!` draw vectors; with each draw `UintN(i+1)` uniform in the bytes it consumes
    (`uintN_attempt_uniform`, `uintNLoop_first_accept`) and consuming bytes of its own, all outcomes are equally likely -/
theorem permutation_every_outcome_once (n : Nat) (p : List Nat) (hp : p.Perm (List.range n)) :
    ∃ js, (js.length = n ∧ Valid js 0 ∧ run js 0 (List.replicate n 0) = p) ∧
      ∀ js', js'.length = n → Valid js' 0 → run js' 0 (List.replicate n 0) = p → js' = js :=
  permutation_bijective n p hp

open Proofs.FisherYates in
/-- non-vacuity: the arrangement `[2, 0, 3, 1]` is reached (by the draws `0, 0, 0, 2`) -/
example : run [0, 0, 0, 2] 0 (List.replicate 4 0) = [2, 0, 3, 1] ∧ Valid [0, 0, 0, 2] 0 := by
  refine ⟨by decide, ?_⟩
  simp [Valid]

/-! ### `Samples` / `Shuffle`: the swaps of a valid choice vector, which they determine -/

open Proofs.FisherYates in
/-- the loop of `Samples` reports the swaps `(i, i + j_i)` of a valid choice vector, in order -/
theorem samplesLoop_choices (fuel n : Nat) : ∀ (k i : Nat) (s s' : State) (sw : List (Nat × Nat)),
    i + k ≤ n → samplesLoop blk fuel n k i s = some (s', sw) →
    ∃ js : List Nat, js.length = k ∧ SValid n js i ∧
      sw = (List.range k).map (fun d => (i + d, i + d + js.getD d 0)) := by
  intro k
  induction k with
  | zero =>
    intro i s s' sw _ h
    cases h
    exact ⟨[], rfl, trivial, rfl⟩
  | succ k ih =>
    intro i s s' sw hik h
    simp only [samplesLoop] at h
    split at h
    · cases h
    · next s1 j hu =>
      split at h
      · cases h
      · next s2 sw2 hrec =>
        have hj := uintN_lt blk _ _ _ _ _ hu
        obtain ⟨js, hl, hv, rfl⟩ := ih (i + 1) s1 s2 sw2 (by omega) hrec
        cases h
        refine ⟨j :: js, congrArg Nat.succ hl, ⟨by omega, hv⟩, ?_⟩
        rw [List.range_succ_eq_map, List.map_cons, List.map_map]
        congr 1
        apply List.map_congr_left
        intro d _
        simp only [Function.comp, List.getD_cons_succ]
        congr 1 <;> omega

open Proofs.FisherYates in
/-- the swaps applied by `Samples(n, m)` are `(i, i + j)` with `i < m`, `i + j < n`, in order of `i` -/
theorem samples_swaps (fuel : Nat) (s s' : State) (n m : Int) (sw : List (Nat × Nat))
    (h : samples blk fuel s n m = (s', .ok sw)) :
    0 ≤ m ∧ m ≤ n ∧ sw.length = m.toNat ∧
    ∀ idx (h : idx < sw.length), (sw[idx]).1 = idx ∧ (sw[idx]).1 ≤ (sw[idx]).2 ∧ (sw[idx]).2 < n.toNat := by
  unfold samples at h
  split at h; · cases h
  split at h; · cases h
  split at h
  · next s2 sw2 hrec =>
    cases h
    obtain ⟨js, hl, hv, rfl⟩ := samplesLoop_choices blk fuel n.toNat m.toNat 0 s s' sw (by omega) hrec
    refine ⟨by omega, by omega, by rw [List.length_map, List.length_range], fun idx hidx => ?_⟩
    rw [List.length_map, List.length_range] at hidx
    simp only [List.getElem_map, List.getElem_range]
    exact ⟨Nat.zero_add idx, Nat.le_add_right _ _, svalid_getD _ js 0 idx hv (hl ▸ hidx)⟩
  · cases h

open Proofs.FisherYates in
/-- **distinct choice vectors give distinct samples**: applied to any array of `n` distinct elements, two valid
    choice vectors of `Samples(n, m)` / `Shuffle(n)` that produce the same first `m` positions are equal; so the
    `n!/(n-m)!` choice vectors give pairwise different ordered samples -/
theorem samples_choices_injective (n : Nat) (js js' : List Nat) (l : List Nat) (hlen : js.length = js'.length)
    (hl : l.length = n) (hn : l.Nodup) (hv : SValid n js 0) (hv' : SValid n js' 0)
    (h : ∀ k (h1 : k < (swaps js 0 l).length) (h2 : k < (swaps js' 0 l).length), k < js.length →
      (swaps js 0 l)[k] = (swaps js' 0 l)[k]) : js = js' :=
  swaps_inj n js js' 0 l hlen hl hn hv hv' (fun k h1 h2 _ hk => h k h1 h2 (by omega))

end Props.C15

#print axioms Props.C15.uintN_lt
#print axioms Props.C15.uintN_zero
#print axioms Props.C15.samples_swaps
#print axioms Props.C15.samples_errors
#print axioms Props.C15.shuffle_errors
#print axioms Props.C15.permutation_errors
#print axioms Props.C15.subPermutation_errors
#print axioms Props.C15.permutation_perm
#print axioms Props.C15.subPermutation_prefix
#print axioms Props.C15.uintN_candidate
#print axioms Props.C15.uintN_attempt_uniform
#print axioms Props.C15.uintNLoop_first_accept
#print axioms Props.C15.permLoop_run
#print axioms Props.C15.permutation_run
#print axioms Props.C15.permutation_choices_injective
#print axioms Props.C15.samplesLoop_choices
#print axioms Props.C15.samples_choices_injective
#print axioms Props.C15.permutation_every_outcome_once
