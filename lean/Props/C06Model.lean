import Proofs.BlsPoints
import Props.C06

/-! # C06 (executable model) — threshold reconstruction, for the curve arithmetic and the coefficient loop the driver
runs: the shares `Q(x_i) • H` of any polynomial of degree < #signers, weighted by the coefficients of the limb-batched
loop (`Model.Threshold.coeff`) and summed with the model's curve arithmetic, give `Q(0) • H` -/

namespace Props.C06Model
open Model Model.Curve Proofs.CurveGroup Proofs.CurveInst

local notation "r" => Model.Bls.r

theorem list_range_sum {M : Type*} [AddCommMonoid M] (f : ℕ → M) (n : ℕ) :
    ((List.range n).map f).sum = ∑ i ∈ Finset.range n, f i := by
  induction n with
  | zero => simp
  | succ n ih => rw [List.range_succ, List.map_append, List.sum_append, ih, Finset.sum_range_succ]; simp

open Proofs.BlsConcrete (ofPoint) in
/-- weighted sums of multiples of a point of the subgroup, computed by the model: only the scalar modulo `r` matters -/
theorem weighted_sum (n : ℕ) (c q : ℕ → ℕ) (hc : ∀ i, c i < 2 ^ 800) (hq : ∀ i, q i < 2 ^ 800) (k0 : ℕ)
    (hk0 : k0 < 2 ^ 800) (hmod : (∑ i ∈ Finset.range n, c i * q i) % r = k0 % r) (H : Bls.P1)
    (hH : Valid Bls.p 0 4 H) (hG : Bls.inG1 H = true) :
    Curve.sum Bls.E1 ((List.range n).map fun i => Curve.mul Bls.E1 (c i) (Curve.mul Bls.E1 (q i) H)) =
      Curve.mul Bls.E1 k0 H := by
  have term : ∀ i, Curve.mul Bls.E1 (c i) (Curve.mul Bls.E1 (q i) H) =
      ofPoint Bls.p 0 4 ((c i * q i) • toPoint Bls.p 0 4 H) := fun i => by
    rw [mul_E1 _ (hq i) H hH, mul_E1 _ (hc i) _ (valid_ofPoint ..), toPoint_ofPoint, smul_smul]
  simp only [term]
  rw [sum_E1 _ (fun P hP => by obtain ⟨i, _, rfl⟩ := List.mem_map.1 hP; exact valid_ofPoint ..), mul_E1 k0 hk0 H hH,
    List.map_map, show (toPoint Bls.p 0 4 ∘ fun i => ofPoint Bls.p 0 4 ((c i * q i) • toPoint Bls.p 0 4 H)) =
      fun i => (c i * q i) • toPoint Bls.p 0 4 H from funext fun i => toPoint_ofPoint ..,
    list_range_sum, ← Finset.sum_smul]
  exact congrArg _ (nsmul_congr_mod ((inG1_iff H hH).1 hG) hmod)

/-- **threshold reconstruction in the executable model**: distinct signer abscissas at most 255, a polynomial `Q` over
    `F_r` of degree below the number of signers, a hash point `H` on the curve in the subgroup (`r • H = ∞`):
    the sum of `coeff_i • (Q(x_i) • H)` is `Q(0) • H`, all computed by `Model.Curve` and `Model.Threshold.coeff` -/
theorem model_threshold_reconstruction (xs : List ℕ) (hb : ∀ x ∈ xs, x ≤ 255)
    (hinj : Set.InjOn (fun j => ((xs.getD j 0 : ℕ) : ZMod r)) (Finset.range xs.length))
    (Q : Polynomial (ZMod r)) (hdeg : Q.degree < xs.length) (H : Bls.P1) (hH : Valid Bls.p 0 4 H)
    (hG : Bls.inG1 H = true) :
    Curve.sum Bls.E1 ((List.range xs.length).map fun i =>
        Curve.mul Bls.E1 (Model.Threshold.coeff r xs i) (Curve.mul Bls.E1 (Q.eval ((xs.getD i 0 : ℕ) : ZMod r)).val H)) =
      Curve.mul Bls.E1 (Q.eval 0).val H := by
  have hc : ∀ i, Model.Threshold.coeff r xs i < 2 ^ 800 := by
    intro i
    unfold Model.Threshold.coeff
    exact (Nat.mod_lt _ Bls.r_pos).trans Bls.r_bits
  -- Lagrange interpolation at zero in F_r, with the coefficients of the C loop
  have lag := Props.C06.c_loop_reconstructs (G := ZMod r) xs hb hinj Q hdeg 1
  simp only [smul_eq_mul, mul_one] at lag
  have hcast : ((∑ i ∈ Finset.range xs.length,
      Model.Threshold.coeff r xs i * (Q.eval ((xs.getD i 0 : ℕ) : ZMod r)).val : ℕ) : ZMod r) = Q.eval 0 := by
    rw [Nat.cast_sum, ← lag]
    apply Finset.sum_congr rfl
    intro i _
    rw [Nat.cast_mul, ZMod.natCast_zmod_val]
  have hmod : (∑ i ∈ Finset.range xs.length,
      Model.Threshold.coeff r xs i * (Q.eval ((xs.getD i 0 : ℕ) : ZMod r)).val) % r = (Q.eval 0).val % r := by
    have := congrArg ZMod.val hcast
    rw [ZMod.val_natCast] at this
    rw [this, Nat.mod_eq_of_lt (ZMod.val_lt _)]
  exact weighted_sum xs.length (fun i => Model.Threshold.coeff r xs i)
    (fun i => (Q.eval ((xs.getD i 0 : ℕ) : ZMod r)).val) hc (fun i => Bls.val_bits _) _ (Bls.val_bits _) hmod H hH hG

end Props.C06Model

#print axioms Props.C06Model.model_threshold_reconstruction
