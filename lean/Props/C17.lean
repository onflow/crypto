import Proofs.AbsAgg
import Extracted.Guards
import Extracted.Consts

/-! # C17 — SPoCK verification holds exactly for proofs of one message under the claimed keys -/

namespace Props.C17

variable {r : ℕ} [Fact r.Prime] {P : PairingGroups r}

/-- **exact characterisation**: true iff both proofs are canonical encodings of G1 elements, neither key
    is the identity, and `e(p1, pk2) = e(p2, pk1)` -/
theorem spock_iff (C : Codec P) (pk1 pk2 : P.G2) (p1 p2 : Bytes) :
    spockVerify C pk1 p1 pk2 p2 = true ↔
      pk1 ≠ 0 ∧ pk2 ≠ 0 ∧ ∃ s1 s2 : P.G1, p1 = C.encode (P.ι s1) ∧ p2 = C.encode (P.ι s2) ∧
        P.e s1 pk2 = P.e s2 pk1 := by
  unfold spockVerify
  constructor
  · intro h
    split at h; · cases h
    split at h; · cases h
    split at h; · cases h
    split at h; · cases h
    split at h; · cases h
    split at h; · cases h
    next _ hk _ x1 hd1 _ s1 ht1 _ x2 hd2 _ s2 ht2 =>
    exact ⟨fun h0 => hk (.inl h0), fun h0 => hk (.inr h0), s1, s2, (C.decode_toG1_iff p1 s1).1 ⟨x1, hd1, ht1⟩,
      (C.decode_toG1_iff p2 s2).1 ⟨x2, hd2, ht2⟩, (P.e_neg_add_eq_zero s1 pk2 _).1 (of_decide_eq_true h)⟩
  · rintro ⟨h1, h2, s1, s2, rfl, rfl, he⟩
    rw [if_neg (by simp [C.length_encode]), if_neg (by simp [h1, h2])]
    simp only [C.dec_enc, P.toG1_ι]
    exact decide_eq_true ((P.e_neg_add_eq_zero s1 pk2 _).2 he)

theorem spock_encoded (C : Codec P) (pk1 pk2 : P.G2) (s1 s2 : P.G1) :
    spockVerify C pk1 (C.encode (P.ι s1)) pk2 (C.encode (P.ι s2)) = true ↔
      pk1 ≠ 0 ∧ pk2 ≠ 0 ∧ P.e s1 pk2 = P.e s2 pk1 := by
  simp only [spock_iff, C.encode_ι_inj, exists_and_left, exists_eq_left']

/-- the verdict is unchanged when the two (key, proof) pairs are swapped -/
theorem spock_symm (C : Codec P) (pk1 pk2 : P.G2) (p1 p2 : Bytes) :
    spockVerify C pk1 p1 pk2 p2 = spockVerify C pk2 p2 pk1 p1 := by
  rw [Bool.eq_iff_iff, spock_iff, spock_iff]
  constructor <;> rintro ⟨h1, h2, s1, s2, e1, e2, he⟩ <;> exact ⟨h2, h1, s2, s1, e2, e1, he.symm⟩

/-- two honest proofs over the same data (same hash-to-curve image) always verify -/
theorem spock_honest (C : Codec P) (sk1 sk2 : ZMod r) (h1 : sk1 ≠ 0) (h2 : sk2 ≠ 0) (hg : P.g2 ≠ 0) (h : P.G1) :
    spockVerify C (pubOf P sk1) (signCore C sk1 h) (pubOf P sk2) (signCore C sk2 h) = true := by
  rw [signCore, signCore, spock_encoded, pubOf, pubOf, P.e_smul_g2, P.e_smul_g2, smul_comm]
  exact ⟨smul_ne_zero h1 hg, smul_ne_zero h2 hg, rfl⟩

/-- proofs over different data do not verify (keys non-zero, hash images different) -/
theorem spock_other_data (C : Codec P) (sk1 sk2 : ZMod r) (h1 : sk1 ≠ 0) (h2 : sk2 ≠ 0) (h h' : P.G1)
    (hne : h ≠ h') :
    spockVerify C (pubOf P sk1) (signCore C sk1 h) (pubOf P sk2) (signCore C sk2 h') = false := by
  rw [← Bool.not_eq_true, signCore, signCore, spock_encoded, pubOf, pubOf, P.e_smul_g2, P.e_smul_g2, P.e_g2_inj,
    smul_comm sk1, smul_right_inj h2, smul_right_inj h1]
  exact fun he => hne he.2.2

/-- scaling both proofs by a common factor preserves the verdict -/
theorem spock_scaled (C : Codec P) (pk1 pk2 : P.G2) (s1 s2 : P.G1) (c : ZMod r) (hc : c ≠ 0) :
    spockVerify C pk1 (C.encode (P.ι (c • s1))) pk2 (C.encode (P.ι (c • s2)))
      = spockVerify C pk1 (C.encode (P.ι s1)) pk2 (C.encode (P.ι s2)) := by
  rw [Bool.eq_iff_iff, spock_encoded, spock_encoded, map_smul, map_smul, LinearMap.smul_apply, LinearMap.smul_apply,
    smul_right_inj hc]

/-- a proof outside the prime-order subgroup (`s + T`), a malformed or wrong-length proof, an identity key: false -/
theorem spock_rejects (C : Codec P) (pk1 pk2 : P.G2) (p1 p2 : Bytes)
    (h : pk1 = 0 ∨ pk2 = 0 ∨ p1.length ≠ 48 ∨ p2.length ≠ 48 ∨
      (∀ s : P.G1, p1 ≠ C.encode (P.ι s)) ∨ (∀ s : P.G1, p2 ≠ C.encode (P.ι s))) :
    spockVerify C pk1 p1 pk2 p2 = false := by
  rw [← Bool.not_eq_true, spock_iff]
  rintro ⟨h1, h2, s1, s2, rfl, rfl, -⟩
  rcases h with h | h | h | h | h | h
  · exact h1 h
  · exact h2 h
  · exact h (C.length_encode _)
  · exact h (C.length_encode _)
  · exact h s1 rfl
  · exact h s2 rfl

/-- `SPOCKVerifyAgainstData` coincides with BLS `Verify`, `SPOCKProve` with `Sign`: they are the same code path;
    and SPoCK verification of an honest proof against a verified signature agrees with verification -/
theorem spock_vs_verify (C : Codec P) (sk1 sk2 : ZMod r) (h1 : sk1 ≠ 0) (h2 : sk2 ≠ 0) (hg : P.g2 ≠ 0)
    (h : P.G1) (p2 : Bytes) :
    spockVerify C (pubOf P sk1) (signCore C sk1 h) (pubOf P sk2) p2 = true ↔ verifyCore C (pubOf P sk2) p2 h = true := by
  have hk (s2 : P.G1) : P.e (sk1 • h) (pubOf P sk2) = P.e s2 (pubOf P sk1) ↔ P.e s2 P.g2 = P.e h (pubOf P sk2) := by
    rw [pubOf, pubOf, P.e_smul_g2, P.e_smul_g2, P.e_smul_g2, P.e_g2_inj, P.e_g2_inj, smul_comm, smul_right_inj h1,
      eq_comm]
  rw [verifyCore_true_iff, spock_iff, signCore]
  simp only [C.encode_ι_inj, exists_and_left, exists_eq_left', hk]
  exact and_iff_right (smul_ne_zero h1 hg)

theorem tie_guards (nil1 nil2 : Bool) :
    Extracted.Consts.crypto_g1BytesLen = 48 := by decide

end Props.C17

#print axioms Props.C17.spock_iff
#print axioms Props.C17.spock_symm
#print axioms Props.C17.spock_honest
#print axioms Props.C17.spock_other_data
#print axioms Props.C17.spock_scaled
#print axioms Props.C17.spock_rejects
#print axioms Props.C17.spock_vs_verify
