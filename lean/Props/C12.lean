import Model.KeyGen
import Proofs.Bytes
import Mathlib.Data.Nat.ModEq
import Mathlib.Tactic.NormNum
import Extracted.Guards
import Extracted.Consts
import Model.Ecdsa
import Proofs.Generators

/-! # C12 — key generation is a fixed, in-range, deterministic function of the seed -/

namespace Props.C12
open Model Model.Bls

theorem mapToFrLoop_spec : ∀ (fuel : Nat) (rest : Bytes) (radix out : Nat),
    rest.length < 32 * fuel →
    mapToFrLoop fuel rest radix out = (out + beNat rest * radix) % r := by
  intro fuel
  induction fuel with
  | zero => intro rest radix out h; omega
  | succ n ih =>
    intro rest radix out h
    unfold mapToFrLoop
    split
    · next hgt =>
      rw [ih _ _ _ (by rw [List.length_take]; omega)]
      have hsplit : rest = rest.take (rest.length - 32) ++ rest.drop (rest.length - 32) := (List.take_append_drop _ _).symm
      have hlen : (rest.drop (rest.length - 32)).length = 32 := by rw [List.length_drop]; omega
      conv_rhs => rw [hsplit, beNat_append, hlen]
      generalize beNat (rest.take (rest.length - 32)) = A
      generalize beNat (rest.drop (rest.length - 32)) = B
      show Nat.ModEq r _ _
      have h1 : Nat.ModEq r ((out + B % r * radix) % r) (out + B * radix) :=
        (Nat.mod_modEq _ _).trans (Nat.ModEq.add_left _ ((Nat.mod_modEq _ _).mul_right _))
      have h2 : Nat.ModEq r (radix * (2 ^ 256 % r) % r) (radix * 2 ^ 256) :=
        (Nat.mod_modEq _ _).trans ((Nat.mod_modEq _ _).mul_left _)
      have h3 := h1.add (h2.mul_left A)
      refine h3.trans ?_
      have : (256 : Nat) ^ 32 = 2 ^ 256 := by norm_num
      rw [this]
      have e : out + B * radix + A * (radix * 2 ^ 256) = out + (A * 2 ^ 256 + B) * radix := by ring
      rw [e]
    · next hle =>
      show Nat.ModEq r _ _
      exact Nat.ModEq.add_left _ ((Nat.mod_modEq _ _).mul_right _)


/-- **`map_bytes_to_Fr` is big-endian OS2IP reduced modulo the group order, for every input length**
    (the 32-byte digit loop with Montgomery radix powers of bls12381_utils.c) -/
theorem mapToFr_eq (b : Bytes) : mapToFr b = beNat b % r := by
  unfold mapToFr
  rw [mapToFrLoop_spec _ _ _ _ (by
    have := Nat.div_add_mod b.length 32
    have := Nat.mod_lt b.length (by norm_num : 32 > 0)
    omega)]
  simp

theorem blsLoop_range (secret info : Bytes) : ∀ (fuel : Nat) (salt : Bytes) (sk : Nat),
    KeyGen.blsLoop secret info fuel salt = some sk → 0 < sk ∧ sk < r := by
  intro fuel
  induction fuel with
  | zero => intro salt sk h; simp [KeyGen.blsLoop] at h
  | succ n ih =>
    intro salt sk h
    simp only [KeyGen.blsLoop] at h
    split at h
    · next hne =>
      cases h
      refine ⟨Nat.pos_of_ne_zero hne, ?_⟩
      rw [mapToFr_eq]
      exact Nat.mod_lt _ (by decide)
    · exact ih _ _ h

/-- the BLS private key is never zero and always below the group order -/
theorem bls_key_range (seed : Bytes) (sk : Nat) (h : KeyGen.bls seed = some sk) : 0 < sk ∧ sk < r := by
  unfold KeyGen.bls at h
  split at h
  · cases h
  · exact blsLoop_range _ _ _ _ _ h

/-- seeds outside 32..256 bytes are rejected; seeds inside are never rejected for their length -/
theorem seed_guard (seed : Bytes) :
    (seed.length < 32 ∨ 256 < seed.length → KeyGen.bls seed = none ∧
      KeyGen.ecdsa Ecdsa.p256 seed = none ∧ KeyGen.ecdsa Ecdsa.k256 seed = none) ∧
    (32 ≤ seed.length ∧ seed.length ≤ 256 → (KeyGen.ecdsa Ecdsa.p256 seed).isSome ∧ (KeyGen.ecdsa Ecdsa.k256 seed).isSome) := by
  unfold KeyGen.bls KeyGen.ecdsa KeyGen.seedMinLen KeyGen.seedMaxLen
  constructor
  · intro h; simp [h]
  · intro h
    have : ¬ (seed.length < 32 ∨ seed.length > 256) := by omega
    simp [this]

/-- the ECDSA private key lies in `[1, n-1]` -/
theorem ecdsa_key_range (S : Ecdsa.CurveSpec) (hn : 2 ≤ S.n) (seed : Bytes) (d : Nat)
    (h : KeyGen.ecdsa S seed = some d) : 0 < d ∧ d < S.n := by
  unfold KeyGen.ecdsa at h
  split at h
  · cases h
  · cases h
    unfold Ecdsa.mapKey
    have := Nat.mod_lt (beNat (Sha2.hkdf [] seed [] 48)) (by omega : S.n - 1 > 0)
    omega

/-- determinism: the key is a function of the seed (definitional) -/
theorem deterministic (seed seed' : Bytes) (h : seed = seed') :
    KeyGen.bls seed = KeyGen.bls seed' ∧ KeyGen.ecdsa Ecdsa.p256 seed = KeyGen.ecdsa Ecdsa.p256 seed' := by
  subst h; exact ⟨rfl, rfl⟩

/-- tie: the seed-length guards and derivation constants of the code as it is now -/
theorem tie_guards (len : Int) :
    Extracted.Guards.crypto_blsBLS12381Algo_generatePrivateKey_g0 len = (decide (len < 32) || decide (len > 256)) ∧
    Extracted.Guards.crypto_ecdsaAlgo_generatePrivateKey_g0 len = (decide (len < 32) || decide (len > 256)) ∧
    Extracted.Consts.crypto_KeyGenSeedMinLen = (KeyGen.seedMinLen : Int) ∧
    Extracted.Consts.crypto_KeyGenSeedMaxLen = (KeyGen.seedMaxLen : Int) ∧
    Extracted.Consts.crypto_frBytesLen = 32 ∧ Extracted.Consts.crypto_securityBits = 128 := by
  refine ⟨rfl, rfl, by decide, by decide, by decide, by decide⟩

example : 2 ≤ Ecdsa.p256.n ∧ 2 ≤ Ecdsa.k256.n := by decide

/-- **the four generators the public keys are multiples of are points of their curves annihilated by the group order**
    (kernel evaluation of the model's own arithmetic on the real constants): `G1`, `G2` of BLS12-381 by `r`, the base
    points of P-256 and secp256k1 by `n`. Since `r` and both `n` are prime (Pratt certificates, `Proofs/Primes.lean`) and
    the generators are not the point at infinity, their order is exactly `r`, resp. `n`: `sk ↦ sk • G` is injective on
    `[1, r-1]`, resp. `[1, n-1]` -/
theorem generators_have_prime_order :
    (Curve.onCurve Bls.E1 Bls.g1 = true ∧ Curve.mul Bls.E1 Bls.r Bls.g1 = none ∧ Bls.g1.isSome = true) ∧
    (Curve.onCurve Bls.E2 Bls.g2 = true ∧ Curve.mul Bls.E2 Bls.r Bls.g2 = none ∧ Bls.g2.isSome = true) ∧
    (Curve.onCurve Ecdsa.p256.C Ecdsa.p256.g = true ∧ Curve.mul Ecdsa.p256.C Ecdsa.p256.n Ecdsa.p256.g = none ∧
      Ecdsa.p256.g.isSome = true) ∧
    (Curve.onCurve Ecdsa.k256.C Ecdsa.k256.g = true ∧ Curve.mul Ecdsa.k256.C Ecdsa.k256.n Ecdsa.k256.g = none ∧
      Ecdsa.k256.g.isSome = true) :=
  ⟨⟨by decide +kernel, Proofs.Generators.mul_r_g1, rfl⟩, ⟨by decide +kernel, Proofs.Generators.mul_r_g2, rfl⟩,
    ⟨by decide +kernel, Proofs.Generators.mul_n_p256, rfl⟩, ⟨by decide +kernel, Proofs.Generators.mul_n_k256, rfl⟩⟩

end Props.C12

#print axioms Props.C12.mapToFr_eq
#print axioms Props.C12.bls_key_range
#print axioms Props.C12.seed_guard
#print axioms Props.C12.ecdsa_key_range
#print axioms Props.C12.deterministic
#print axioms Props.C12.tie_guards
#print axioms Props.C12.generators_have_prime_order
