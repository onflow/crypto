import Props.C14
import Proofs.Bytes

/-! # C14 (continued) — `RestoreChacha20PRG` on EVERY accepted state string

`Props.C14.restore_store` speaks about strings that `Store()` produced.  These theorems speak about
every 52-byte string the decoder accepts (an adversary or a corrupted file may supply any): the
restored generator holds exactly the three fields of the string, stores back to the same bytes, and
is positioned at the string's counter.  Property theorems only. -/

namespace Props.C14
open Model Model.Prg

/-- **Restore/Store is the identity on every accepted state string**: whatever 52 bytes
    `RestoreChacha20PRG` accepts, `Store()` of the restored generator returns those same bytes
    (seed, customizer and the full 64-bit counter, including counters beyond the 2^38-byte limit of
    the stream), for every block function. -/
theorem store_restore (blkOf : Bytes → Bytes → Nat → Bytes) (st : Bytes) (s : State)
    (h : restore? blkOf st = some s) : store s = st := by
  obtain ⟨hl, rfl⟩ := (restore?_eq_some_iff blkOf st s).1 h
  have h8 : (st.drop 44).length = 8 := by simp [hl]
  have hle := natLE_leNat (st.drop 44)
  rw [h8] at hle
  rw [store, hle, List.append_assoc, ← List.drop_drop (i := 12) (j := 32), List.take_append_drop, List.take_append_drop]

/-- restoring never fabricates state: the restored generator's seed, customizer and counter are the
    three fields of the string -/
theorem restore_fields (blkOf : Bytes → Bytes → Nat → Bytes) (st : Bytes) (s : State)
    (h : restore? blkOf st = some s) :
    s.seed = st.take 32 ∧ s.cust = (st.drop 32).take 12 ∧ s.counter = leNat (st.drop 44) ∧
      s.counter < 2 ^ 64 := by
  obtain ⟨hl, rfl⟩ := (restore?_eq_some_iff blkOf st s).1 h
  have := leNat_lt (st.drop 44)
  rw [show (st.drop 44).length = 8 by simp [hl]] at this
  exact ⟨rfl, rfl, rfl, by simpa using this⟩

/-- **A restored generator is positioned exactly at its counter**, for EVERY accepted state string
    (not only the ones `Store()` produced): if the 64-bit counter field `T` of the string is below
    2^38 (the RFC's 2^32-block limit), the generator `RestoreChacha20PRG` returns satisfies the
    invariant of a generator of that seed and customizer that has output `T` bytes — so by
    `read_spec` / `readMany_spec` every later output is the keystream from offset `T` on. -/
theorem restore_positions (blkOf : Bytes → Bytes → Nat → Bytes)
    (hblk : ∀ k n i, (blkOf k n i).length = 64) (st : Bytes) (s : State)
    (h : restore? blkOf st = some s) (hT : leNat (st.drop 44) < 2 ^ 38) :
    StateInv (blkOf s.seed s.cust) s (leNat (st.drop 44)) := by
  obtain ⟨hl, rfl⟩ := (restore?_eq_some_iff blkOf st s).1 h
  refine ⟨?_, rfl, by omega⟩
  simp only [Nat.mod_eq_of_lt (by omega : leNat (st.drop 44) / 64 < 2 ^ 32)]
  exact inv_setCounter _ (hblk _ _) _

/-- the hypotheses are satisfiable: a 52-byte string with counter 100 is accepted -/
example : (restore? (fun _ _ _ => zeros 64) (zeros 44 ++ natLE 8 100)).isSome = true := by decide

end Props.C14

#print axioms Props.C14.store_restore
#print axioms Props.C14.restore_fields
#print axioms Props.C14.restore_positions
